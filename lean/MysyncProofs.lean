/- All property theorems and lemmas.  Besides convenience this module is a test: two modules that each let Lean generate
the same auxiliary declaration (as `fun_cases` on one function does in unrelated modules) build alone and fail here. -/
import MysyncProofs.C01
import MysyncProofs.C02
import MysyncProofs.C02Fault
import MysyncProofs.C02Safety
import MysyncProofs.C03
import MysyncProofs.C03Timing
import MysyncProofs.C04
import MysyncProofs.C05
import MysyncProofs.C06
import MysyncProofs.C07
import MysyncProofs.C07World
import MysyncProofs.C08
import MysyncProofs.C09
import MysyncProofs.C10
import MysyncProofs.C11
import MysyncProofs.C12
import MysyncProofs.C13
import MysyncProofs.C14
import MysyncProofs.C15
import MysyncProofs.C16
import MysyncProofs.C17
import MysyncProofs.C18
import MysyncProofs.C19
import MysyncProofs.C20
import MysyncProofs.Lemmas.ActiveNodesCalc
import MysyncProofs.Lemmas.ActiveNodesLemmas
import MysyncProofs.Lemmas.ActiveNodesTrace
import MysyncProofs.Lemmas.CascadeLemmas
import MysyncProofs.Lemmas.Counterexamples
import MysyncProofs.Lemmas.DiskGuardLemmas
import MysyncProofs.Lemmas.GtidLemmas
import MysyncProofs.Lemmas.Guard
import MysyncProofs.Lemmas.IvLemmas
import MysyncProofs.Lemmas.ListFacts
import MysyncProofs.Lemmas.LockInv
import MysyncProofs.Lemmas.LockLemmas
import MysyncProofs.Lemmas.LockServer
import MysyncProofs.Lemmas.LockStep
import MysyncProofs.Lemmas.LostLemmas
import MysyncProofs.Lemmas.ManagerCore
import MysyncProofs.Lemmas.ManagerTick
import MysyncProofs.Lemmas.NormalizeLemmas
import MysyncProofs.Lemmas.OfflineLemmas
import MysyncProofs.Lemmas.OptimizationTrace
import MysyncProofs.Lemmas.OptimizationWorld
import MysyncProofs.Lemmas.QuorumSpec
import MysyncProofs.Lemmas.RecoveryLemmas
import MysyncProofs.Lemmas.RepairLemmas
import MysyncProofs.Lemmas.ReplSettingsSpec
import MysyncProofs.Lemmas.SafetyFaultLemmas
import MysyncProofs.Lemmas.SafetyLemmas
import MysyncProofs.Lemmas.SelectLemmas
import MysyncProofs.Lemmas.ShapeFree
import MysyncProofs.Lemmas.SwitchWorldLemmas
import MysyncProofs.Lemmas.SwitchoverLemmas
import MysyncProofs.Lemmas.SwitchoverStages
import MysyncProofs.Lemmas.ZkOps
import MysyncProofs.Lemmas.ZkPath
import MysyncProofs.Lemmas.ZkServer
