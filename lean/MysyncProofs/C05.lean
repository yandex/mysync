/-
C05 — Automatic failover is filed only when every gate is open.
Property theorems of C05; the normal forms of the iteration they rest on are in MysyncProofs/Lemmas/ManagerCore.lean.
Model: MysyncModel/App/Manager.lean (`stateManager`, `approveFailover`).
-/
import MysyncModel.App.Manager
import MysyncProofs.Lemmas.ManagerCore
import MysyncProofs.Lemmas.ListFacts

namespace C05
open NS Manager ManagerLemmas

/-- the master's health record is bad: missing/failed ping or read-only filesystem -/
def HealthBad (md : NodeState) : Prop := md.pingOk = false ∨ md.isFsReadonly = true

/-- crash-recovery restart with resetup enabled -/
def CrashRecovered (cfg : Cfg) (md : NodeState) : Prop := md.daemonCrashRecovery = some true ∧ cfg.resetupCrashedHosts = true

/-- every other HA node is still replicating -/
def AllOthersReplicating (i : In) : Prop :=
  countRunningHASlaves i.cs > 0 ∧ countRunningHASlaves i.cs = countHANodes i.cs - 1

/-- The property's gates, written from its text.  `timer` is the value of the process-local failure
timer that the approval looks at (it is set to `now` in the same iteration when it was unset). -/
def GatesOpen (cfg : Cfg) (i : In) (master : String) : Prop :=
  cfg.failover = true ∧
  -- neither maintenance mode (full or light) is readably active: absent, or unreadable while the marker file is absent
  (i.maint = .absent ∨ i.maint = .err false) ∧
  -- no other switch request is active
  i.sw = .absent ∧
  (∃ md, i.dcs.get? master = some md ∧
    (HealthBad md ∨ CrashRecovered cfg md) ∧
    (CrashRecovered cfg md ∨ md.isFsReadonly = true ∨
      (¬ AllOthersReplicating i ∧
       (cfg.failoverDelay ≤ 0 ∨ ∃ t, i.failedAt = some t ∧ i.now - t ≥ cfg.failoverDelay)))) ∧
  -- the alive replicas in the published active list reach the failover quorum (≥ 1 without semi-sync)
  Gen.SwitchHelper.CheckFailoverQuorum (sh cfg) i.activeNodes (countAliveHASlavesWithin i.activeNodes i.cs) = none ∧
  -- the last successful automatic failover finished at least the cooldown ago
  (i.last = .absent ∨ ∃ causeAuto fin, i.last = .record false causeAuto fin ∧ ¬ (causeAuto = true ∧ i.now - fin < cfg.failoverCooldown))

/-- an automatic failover request is filed only if every gate is open -/
theorem failover_filed_only_if (cfg : Cfg) (i : In)
    (h : Step.issueFailover ∈ (stateManager cfg i).steps) :
    i.connected = true ∧ i.lockHeld = true ∧ ∃ master, i.master = some master ∧ GatesOpen cfg i master := by
  obtain ⟨m, _, hen, hsw, ⟨h1, h2, h3, h4⟩, _, _⟩ := issueFailover_source h
  exact ⟨hen.connected, hen.lockHeld, m, hen.master, h1, hen.not_light.2, hsw, h2, h3, h4⟩

/-- the request is filed at most once per iteration and nothing is done after it -/
theorem filed_last (cfg : Cfg) (i : In) (h : Step.issueFailover ∈ (stateManager cfg i).steps) :
    ∃ pre, (stateManager cfg i).steps = pre ++ [Step.issueFailover] ∧ Step.issueFailover ∉ pre := by
  obtain ⟨_, q, _, _, _, e, hq⟩ := issueFailover_source h
  exact ⟨q, e, fun hm => nomatch hq _ hm⟩

/-- the process-local failure clock: after an iteration that reaches the health test the timer is
unset iff the record was good, and otherwise keeps the time of the FIRST bad evaluation -/
def tickTimer (bad : Bool) (now : Int) (t : Option Int) : Option Int :=
  if bad then (match t with | some x => some x | none => some now) else none

/-- the iteration reaches the health test -/
def ReachesHealthTest (i : In) : Prop :=
  i.connected = true ∧ i.lockHeld = true ∧ i.dcsStateErr = false ∧ i.master.isSome ∧ i.activeNodesErr = false ∧
  (i.maint = .absent ∨ i.maint = .err false ∨ i.maint = .record true true false ∨ (i.maint = .record true false false ∧ i.setPausedOk = true)) ∧
  (i.sw = .absent ∨ ∃ sw, i.sw = .record sw ∧ sw.failoverType = true ∧ ∃ p, i.maint = .record true p false)

theorem timer_step (cfg : Cfg) (i : In) (master : String) (md : NodeState)
    (hr : ReachesHealthTest i) (hm : i.master = some master) (hd : i.dcs.get? master = some md) :
    (stateManager cfg i).failedAt = tickTimer (!md.pingOk || md.isFsReadonly) i.now i.failedAt := by
  obtain ⟨hc, hl, hde, _, ha, hmt, hsw⟩ := hr
  have htm : asTimer i master = tickTimer (!md.pingOk || md.isFsReadonly) i.now i.failedAt := by
    unfold asTimer; rw [hd]; rfl
  -- the four maintenance situations of `ReachesHealthTest` are the three of `Enters`
  obtain ⟨light, pre, hen⟩ : ∃ light pre, Enters i master light pre := by
    rcases hmt with h | h | h | ⟨h, hs⟩
    · exact ⟨false, [], hc, hl, hde, hm, ha, Or.inl ⟨rfl, rfl, Or.inl h⟩⟩
    · exact ⟨false, [], hc, hl, hde, hm, ha, Or.inl ⟨rfl, rfl, Or.inr h⟩⟩
    · exact ⟨true, [], hc, hl, hde, hm, ha, Or.inr (Or.inl ⟨rfl, rfl, h⟩)⟩
    · exact ⟨true, _, hc, hl, hde, hm, ha, Or.inr (Or.inr ⟨rfl, rfl, h, hs⟩)⟩
  rw [stateManager_of_enters hen, handleSwitch_eq, ← htm]
  rcases hsw with hsw | ⟨sw, hsw, hf, p, hp⟩
  · rw [hsOut_absent hsw]
  · obtain rfl := hen.light_of_record hp
    rw [hsOut_parked hsw hf]

/-- an iteration that does not reach the health test leaves the timer alone -/
theorem timer_untouched (cfg : Cfg) (i : In)
    (h : i.connected = false ∨ i.lockHeld = false ∨ i.dcsStateErr = true ∨ i.master = none ∨ i.activeNodesErr = true) :
    (stateManager cfg i).failedAt = i.failedAt := by
  rcases stateManager_shape cfg i with he | ⟨m, light, pre, ⟨hc, hl, hd, hm, ha, _⟩, _⟩
  · exact he.1
  · simp [hc, hl, hd, hm, ha] at h

/-- history: over any sequence of evaluations `(now_k, bad_k)` by one process the timer holds the time
of an evaluation `j` such that every evaluation from `j` on was bad and the one before `j` (if any)
was good; it is unset iff the last evaluation was good -/
theorem failure_clock_history (obs : List (Int × Bool)) (t0 : Option Int) :
    let t := obs.foldl (fun t (o : Int × Bool) => tickTimer o.2 o.1 t) t0
    (t = none ↔ (obs = [] ∧ t0 = none) ∨ ∃ pre o, obs = pre ++ [o] ∧ o.2 = false) ∧
    (∀ x, t = some x → (∀ o ∈ obs, o.2 = true) ∧ t0 = some x ∨
      ∃ pre o post, obs = pre ++ o :: post ∧ o.1 = x ∧ o.2 = true ∧ (∀ p ∈ post, p.2 = true) ∧
        ((pre = [] ∧ t0 = none) ∨ ∃ pre' q, pre = pre' ++ [q] ∧ q.2 = false)) := by
  induction obs using List.reverse_induction with
  | nil =>
    refine ⟨⟨fun h => Or.inl ⟨rfl, h⟩, ?_⟩, fun x hx => Or.inl ⟨List.forall_mem_nil _, hx⟩⟩
    rintro (⟨_, h⟩ | ⟨pre, o, h, _⟩)
    · exact h
    · cases pre <;> cases h
  | snoc init o ih =>
    simp only [List.foldl_append, List.foldl_cons, List.foldl_nil]
    simp only at ih
    generalize List.foldl (fun t (o : Int × Bool) => tickTimer o.2 o.1 t) t0 init = t' at ih ⊢
    obtain ⟨ih1, ih2⟩ := ih
    obtain ⟨n, b⟩ := o
    cases b
    · -- good evaluation: the timer is unset after it
      exact ⟨⟨fun _ => Or.inr ⟨init, _, rfl, rfl⟩, fun _ => rfl⟩, fun x hx => by cases hx⟩
    · -- bad evaluation: the timer is set after it; it keeps an earlier time, or this evaluation starts the clock
      have hall {l : List (Int × Bool)} (h : ∀ p ∈ l, p.2 = true) : ∀ p ∈ l ++ [(n, true)], p.2 = true :=
        List.forall_mem_append.mpr ⟨h, List.forall_mem_singleton.mpr rfl⟩
      refine ⟨⟨fun h => ?_, ?_⟩, fun x hx => ?_⟩
      · cases t' <;> cases h
      · rintro (⟨h, _⟩ | ⟨pre, o, h, ho⟩)
        · cases init <;> cases h
        · obtain ⟨_, rfl⟩ := List.append_singleton_inj.mp h
          cases ho
      · rcases t' with _ | y <;> cases hx
        · exact Or.inr ⟨init, (n, true), [], rfl, rfl, rfl, List.forall_mem_nil _, ih1.mp rfl⟩
        · rcases ih2 _ rfl with ⟨h1, h2⟩ | ⟨pre, o, post, h1, h2, h3, h4, h5⟩
          · exact Or.inl ⟨hall h1, h2⟩
          · exact Or.inr ⟨pre, o, post ++ [(n, true)], by rw [h1, List.append_assoc]; rfl, h2, h3, hall h4, h5⟩

private def acting : Step → Bool
  | .issueFailover | .repairOffline | .repairCluster | .updateActiveNodes | .syncOptimization => true
  | _ => false

/-- A manager that cannot reach the master while the master's own health record is good files
nothing and performs no repair in that iteration. -/
theorem suspicious_master_inert (cfg : Cfg) (i : In) (master : String) (cm md : NodeState)
    (hm : i.master = some master) (hc : i.cs.get? master = some cm) (hd : i.dcs.get? master = some md)
    (hunreach : cm.pingOk = false) (hgood : md.pingOk = true ∧ md.isFsReadonly = false) :
    ∀ s ∈ (stateManager cfg i).steps,
      s ≠ .issueFailover ∧ s ≠ .repairOffline ∧ s ≠ .repairCluster ∧ s ≠ .updateActiveNodes ∧ s ≠ .syncOptimization := by
  intro s hs
  suffices h : acting s = false from
    ⟨ne_of_class h rfl, ne_of_class h rfl, ne_of_class h rfl, ne_of_class h rfl, ne_of_class h rfl⟩
  rcases mem_steps hs with he | rfl | ⟨m, light, pre, hen, h | ⟨sw, _, _, h⟩⟩
  · exact not_class_of_class (fun t => by cases t <;> rfl) he
  · rfl
  · obtain rfl : m = master := Option.some.inj (hen.master.symm.trans hm)
    have : asTail cfg i m light = detectSteps false i.failedAt ++ [.suspicious] := by
      simp [asTail, repairs, hc, hd, hunreach, hgood.1, hgood.2]
    rw [this] at h
    rcases List.mem_append.mp h with h | h
    · rcases detectSteps_mem h with rfl | rfl | rfl <;> rfl
    · rw [List.mem_singleton.mp h]; rfl
  · exact not_class_of_class (fun t => by cases t <;> rfl) (hsTail_mem cfg i sw s h)

-- non-vacuity: a dead master with a quorum of alive replicas, delay elapsed ⇒ filed
private def cfg0 : Cfg := ⟨true, 30, 3600, false, true, 1, 1800, 60⟩
private def rep : NodeState := { pingOk := true, slave := some { state := .stopped, masterHost := "m" } }
private def i0 : In :=
  { master := some "m", activeNodes := ["m", "a", "b"],
    cs := [("m", ({ pingOk := false } : NodeState)), ("a", rep), ("b", rep)], dcs := [("m", ({ pingOk := false } : NodeState)), ("a", rep), ("b", rep)],
    now := 100, failedAt := some 60 }
example : Step.issueFailover ∈ (stateManager cfg0 i0).steps := by decide +kernel
example : Step.issueFailover ∉ (stateManager cfg0 { i0 with failedAt := some 80 }).steps := by decide +kernel

end C05
