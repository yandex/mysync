/-
C09 — Maintenance freezes automation; leaving re-learns the real master.
Property theorems of C09; the normal forms of the manager iteration they rest on are in
MysyncProofs/Lemmas/ManagerCore.lean; the counterexample to the first wording of `leave_keeps_mode_otherwise` is
in Lemmas/Counterexamples.lean.
Models: MysyncModel/App/Manager.lean (manager iteration), MysyncModel/App/Maintenance.lean
(candidate / maintenance / first-run handlers, enter / leave).
-/
import MysyncModel.App.Maintenance
import MysyncProofs.Lemmas.ManagerCore
import MysyncProofs.Lemmas.Counterexamples

namespace C09
open NS Manager Maintenance ManagerLemmas

/-- steps of a manager iteration that change MySQL settings/topology, the recorded master, the
active list or a switch outcome -/
def Step.clusterWide : Step → Bool
  | .switchTimedOut | .switchRejected | .switchStarted _ | .switchPerformed _ | .switchFailed | .switchFinished
  | .issueFailover | .repairOffline | .repairCluster | .updateActiveNodes | .syncOptimization => true
  | _ => false

/-- a manager that reads an ACKNOWLEDGED full-maintenance record does nothing and goes to (stays in)
the paused state -/
theorem manager_paused_is_inert (cfg : Cfg) (i : In) (sl : Bool)
    (hc : i.connected = true) (hl : i.lockHeld = true) (hd : i.dcsStateErr = false) (hm : i.master.isSome)
    (ha : i.activeNodesErr = false) (hmaint : i.maint = .record false true sl) :
    (stateManager cfg i).steps = [] ∧ (stateManager cfg i).next = .maintenance := by
  obtain ⟨m, hm⟩ := Option.isSome_iff_exists.mp hm
  simp [stateManager, hc, hl, hd, hm, ha, hmaint]

/-- … and the same when the record cannot be read while the local marker file says "maintenance"
(coordination outage / restart during maintenance) -/
theorem manager_unreadable_with_file_is_inert (cfg : Cfg) (i : In)
    (hc : i.connected = true) (hl : i.lockHeld = true) (hd : i.dcsStateErr = false) (hm : i.master.isSome)
    (ha : i.activeNodesErr = false) (hmaint : i.maint = .err true) :
    (stateManager cfg i).steps = [] ∧ (stateManager cfg i).next = .maintenance := by
  obtain ⟨m, hm⟩ := Option.isSome_iff_exists.mp hm
  simp [stateManager, hc, hl, hd, hm, ha, hmaint]

/-- entering: the only actions are the configured semi-sync switch-off + list removal and the
acknowledgement itself; nothing cluster-wide happens in that iteration -/
theorem manager_entering_only_acknowledges (cfg : Cfg) (i : In) (sl : Bool)
    (hc : i.connected = true) (hl : i.lockHeld = true) (hd : i.dcsStateErr = false) (hm : i.master.isSome)
    (ha : i.activeNodesErr = false) (hmaint : i.maint = .record false false sl) :
    (stateManager cfg i).steps = [Step.enterMaintenance i.enterMaintOk] ∧
    ((stateManager cfg i).next = .maintenance ↔ i.enterMaintOk = true) := by
  obtain ⟨m, hm⟩ := Option.isSome_iff_exists.mp hm
  cases he : i.enterMaintOk <;> simp [stateManager, hc, hl, hd, hm, ha, hmaint, he]

/-- the paused handler: while the record is present and does not say "leave" (or cannot be read) it
does nothing but keep the marker file, whatever else is true — across restarts and outages -/
theorem paused_handler_is_inert (maintFile lock : Bool) (maint : MaintRead) (i : LeaveIn)
    (h : (∃ f, maint = .err f) ∨ ∃ l p, maint = .record l p false) :
    (stateMaintenance maintFile maint lock i).2 = .maintenance ∧
    ∀ a ∈ (stateMaintenance maintFile maint lock i).1, a = Act.writeMaintFile := by
  rcases h with ⟨f, rfl⟩ | ⟨l, p, rfl⟩ <;> cases maintFile <;> simp [stateMaintenance]

/-- a restarted daemon that cannot reach the coordination service stays paused when the marker file exists -/
theorem restart_without_dcs_stays_paused (lock : Bool) : stateFirstRun false true lock = .maintenance :=
  rfl

/-- candidates follow only after the manager's acknowledgement, and never for light mode -/
theorem candidates_follow_after_ack (connected upd lock : Bool) (maint : MaintRead) :
    stateCandidate connected upd maint lock = .maintenance ↔
      (connected = true ∧ upd = true ∧ ∃ sl, maint = .record false true sl) := by
  refine ⟨?_, fun ⟨hc, hu, sl, hm⟩ => by subst hc hu hm; rfl⟩
  fun_cases stateCandidate connected upd maint lock
  -- the one row that returns `.maintenance`: a record of full maintenance, acknowledged
  case case4 hc hu l p s h =>
    cases l <;> cases p <;> cases h
    exact fun _ => ⟨by simpa using hc, by simpa using hu, s, rfl⟩
  all_goals exact nofun

/-- light maintenance only suppresses failover: with no pending failover-type request, an iteration
under acknowledged light maintenance takes exactly the steps of the same iteration without
maintenance, minus the filing of a failover (and the iteration goes on to repairs instead) -/
theorem light_never_files_failover (cfg : Cfg) (i : In) (p sl : Bool) (hmaint : i.maint = .record true p sl) :
    Step.issueFailover ∉ (stateManager cfg i).steps := by
  intro h
  obtain ⟨_, _, hen, _⟩ := issueFailover_source h
  cases hen.light_of_record hmaint

private def handling : Step → Bool
  | .switchStarted _ | .switchRejected | .switchTimedOut | .switchFinished | .switchFailed => true
  | _ => false

theorem light_parks_failover_requests (cfg : Cfg) (i : In) (sw : Switch)
    (hmaint : i.maint = .record true true false) (hsw : i.sw = .record sw) (hf : sw.failoverType = true) :
    ∀ s ∈ (stateManager cfg i).steps, s ≠ .switchStarted true ∧ s ≠ .switchStarted false ∧ s ≠ .switchRejected ∧
      s ≠ .switchTimedOut ∧ s ≠ .switchFinished ∧ s ≠ .switchFailed := by
  intro s hs
  suffices h : handling s = false from
    ⟨ne_of_class h rfl, ne_of_class h rfl, ne_of_class h rfl, ne_of_class h rfl, ne_of_class h rfl, ne_of_class h rfl⟩
  rcases mem_steps hs with he | rfl | ⟨m, light, pre, hen, h⟩
  · exact not_class_of_class (fun t => by cases t <;> rfl) he
  · rfl
  obtain rfl := hen.light_of_record hmaint
  rcases h with h | ⟨sw', hsw', hn, _⟩
  · exact not_class_of_class (fun t => by cases t <;> rfl) (asTail_light_quiet cfg i m s h)
  · rw [hsw] at hsw'; cases hsw'
    exact absurd ⟨rfl, hf⟩ hn

/-- planned switchovers continue under light maintenance exactly as without it -/
theorem light_keeps_planned_switchovers (cfg : Cfg) (i : In) (sw : Switch)
    (hsw : i.sw = .record sw) (hf : sw.failoverType = false) :
    (stateManager cfg { i with maint := .record true true false }).steps = (stateManager cfg { i with maint := .absent }).steps := by
  -- the gates before the maintenance record do not read it; after them both iterations handle the request
  rcases Bool.eq_false_or_eq_true i.connected with hc | hc
  rotate_left
  · simp [stateManager, hc]
  rcases Bool.eq_false_or_eq_true i.lockHeld with hl | hl
  rotate_left
  · simp [stateManager, hc, hl]
  rcases Bool.eq_false_or_eq_true i.dcsStateErr with hd | hd
  · simp [stateManager, hc, hl, hd]
  rcases Option.eq_none_or_eq_some i.master with hm | ⟨m, hm⟩
  · simp [stateManager, hc, hl, hd, hm]
  rcases Bool.eq_false_or_eq_true i.activeNodesErr with ha | ha
  · simp [stateManager, hc, hl, hd, hm, ha]
  have e1 : Enters { i with maint := .record true true false } m true [] :=
    ⟨hc, hl, hd, hm, ha, Or.inr (Or.inl ⟨rfl, rfl, rfl⟩)⟩
  have e2 : Enters { i with maint := .absent } m false [] := ⟨hc, hl, hd, hm, ha, Or.inl ⟨rfl, rfl, Or.inl rfl⟩⟩
  have hp (light : Bool) : ¬ (light = true ∧ sw.failoverType = true) := fun h => by simp [hf] at h
  rw [stateManager_of_enters e1, stateManager_of_enters e2, handleSwitch_eq, handleSwitch_eq,
    hsOut_record (i := { i with maint := .record true true false }) hsw (hp _),
    hsOut_record (i := { i with maint := .absent }) hsw (hp _)]
  -- `hsTail` does not read the maintenance record
  rfl

/-- repairs and the active-list update continue under light maintenance when the master is healthy -/
theorem light_keeps_repairs (cfg : Cfg) (i : In) (master : String) (md cm : NodeState)
    (hc : i.connected = true) (hl : i.lockHeld = true) (hd : i.dcsStateErr = false) (hm : i.master = some master)
    (ha : i.activeNodesErr = false) (hmaint : i.maint = .record true true false) (hsw : i.sw = .absent)
    (hdm : i.dcs.get? master = some md) (hcm : i.cs.get? master = some cm) (hreach : cm.pingOk = true) :
    Step.repairCluster ∈ (stateManager cfg i).steps ∧ Step.updateActiveNodes ∈ (stateManager cfg i).steps := by
  have hen : Enters i master true [] := ⟨hc, hl, hd, hm, ha, Or.inr (Or.inl ⟨rfl, rfl, hmaint⟩)⟩
  rw [stateManager_of_enters hen, handleSwitch_eq, List.nil_append, hsOut_absent hsw]
  -- a reachable master is repaired whether or not a crash recovery is seen, and under light maintenance the tail
  -- ends with the repairs whatever the health record says
  have hrep (tm) : Step.repairCluster ∈ repairs cfg i master true md tm ∧
      Step.updateActiveNodes ∈ repairs cfg i master true md tm := by
    simp only [repairs, hcm, hreach, Bool.not_true, Bool.false_eq_true, ↓reduceIte]
    split <;> exact ⟨by decide, by decide⟩
  simp only [asTail, hdm]
  split <;> simp [hrep]

/-- leaving succeeds only when exactly one alive master exists; that node becomes the recorded
master, the rebuilt list is non-empty, and only then the record is deleted -/
theorem leave_iff_one_master (i : LeaveIn) :
    ((leaveMaintenance i).2 = true →
      ∃ m rest a, mastersOf i.cs = [m] ∧ Act.setMasterHost m ∈ (leaveMaintenance i).1 ∧
        i.activeAfter = some (a :: rest) ∧ Act.deleteMaintenance ∈ (leaveMaintenance i).1) ∧
    (Act.deleteMaintenance ∈ (leaveMaintenance i).1 →
      ∃ m rest a, mastersOf i.cs = [m] ∧ i.activeAfter = some (a :: rest)) := by
  fun_cases leaveMaintenance i
  -- the one row that deletes the record, and the only one that can succeed: one master, a non-empty rebuilt list
  case case8 m hm _ _ _ l hl ha =>
    obtain ⟨a, rest, rfl⟩ := List.exists_cons_of_ne_nil hl
    exact ⟨fun _ => ⟨m, rest, a, hm, List.mem_cons_self, ha, by simp⟩, fun _ => ⟨m, rest, a, hm, ha⟩⟩
  all_goals exact ⟨fun h => (nomatch h), fun h => by simp at h⟩

/-- otherwise the mode is kept, and several masters raise the emergency marker (and nothing else) —
provided the host list could be refreshed; when that refresh fails nothing at all is done -/
theorem leave_keeps_mode_otherwise (i : LeaveIn) (h : (mastersOf i.cs).length ≠ 1) :
    (leaveMaintenance i).2 = false ∧ Act.deleteMaintenance ∉ (leaveMaintenance i).1 ∧
    (∀ m, Act.setMasterHost m ∉ (leaveMaintenance i).1) ∧
    (i.updateHostsOk = true → (mastersOf i.cs).length ≥ 2 → (leaveMaintenance i).1 = [Act.writeEmerge]) ∧
    (i.updateHostsOk = false → (leaveMaintenance i).1 = []) ∧
    ((mastersOf i.cs).length = 0 → (leaveMaintenance i).1 = []) := by
  -- the rows: host refresh failed or no master (nothing done), exactly one master (excluded by `h`), several (the marker)
  fun_cases leaveMaintenance i <;> simp_all

private theorem leave_no_remove (i : LeaveIn) : Act.removeMaintFile ∉ (leaveMaintenance i).1 := by
  fun_cases leaveMaintenance i <;> simp

/-- a failed leave keeps the daemon paused -/
theorem failed_leave_stays_paused (i : LeaveIn) (h : (leaveMaintenance i).2 = false) :
    (tryLeave true i).2 = .maintenance ∧ Act.removeMaintFile ∉ (tryLeave true i).1 := by
  unfold tryLeave
  simp [h, leave_no_remove i]

-- non-vacuity
private def mst : NodeState := { pingOk := true, isMaster := true }
private def rep : NodeState := { pingOk := true, slave := some { state := .running, masterHost := "b" } }
example : (leaveMaintenance { cs := [("a", rep), ("b", mst)], activeAfter := some ["b", "a"] }).2 = true := by decide +kernel
example : (leaveMaintenance { cs := [("a", mst), ("b", mst)] }).1 = [Act.writeEmerge] := by decide +kernel

end C09
