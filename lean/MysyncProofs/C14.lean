/-
C14 — Candidate selection honours priority within the lag bound.
Property theorems of C14; the lemmas about the scans and about `mostDesirableFuel` are in
MysyncProofs/Lemmas/SelectLemmas.lean.
-/
import MysyncModel.Select
import MysyncProofs.Lemmas.SelectLemmas

namespace C14
open Gtid Select SelectLemmas

abbrev GSubset (s m : GtidSet) : Prop := GtidLemmas.GSubset s m

/-- the recursion of `getMostDesirableNode` always terminates for a non-negative bound: the list of
"much fresher" hosts never contains the top-priority host, so it is strictly shorter -/
theorem desirable_terminates (bound : Int) (hb : 0 ≤ bound) (ps : List Pos) :
    ∀ fuel, ps.length < fuel → mostDesirableFuel bound fuel ps ≠ .outOfFuel :=
  fun fuel => mDF_terminates bound hb fuel ps

/-- it returns one of the offered candidates … -/
theorem desirable_mem (bound : Int) (hb : 0 ≤ bound) (ps : List Pos) (p : Pos)
    (h : mostDesirable bound ps = .node p) : p ∈ ps :=
  have _ := hb  -- not needed: membership holds for every bound
  (mDF_node bound _ ps p h).1

/-- … and an error only when none is offered -/
theorem desirable_error_iff_empty (bound : Int) (hb : 0 ≤ bound) (ps : List Pos) :
    (∀ p, mostDesirable bound ps ≠ .node p) ↔ ps = [] :=
  ⟨fun h => match hd : mostDesirable bound ps with
      | .notFound => mDF_notFound bound _ ps hd
      | .outOfFuel => absurd hd (mDF_terminates bound hb _ ps (Nat.lt_succ_self _))
      | .node p => absurd hd (h p),
    fun h _ => h ▸ nofun⟩

/-- never the host the switch moves away from -/
theorem never_from (bound : Int) (hb : 0 ≤ bound) (ps : List Pos) (from_ : String) (p : Pos)
    (h : mostDesirable bound (filterOutHost ps from_) = .node p) : p.host ≠ from_ ∧ p ∈ ps :=
  have ⟨h1, h2⟩ := List.mem_filter.1 (desirable_mem bound hb _ p h)
  ⟨by simpa using h2, h1⟩

/-- the highest-priority candidate is returned whenever its lag is within the bound -/
theorem top_within_bound (bound : Int) (ps : List Pos) (top : Pos)
    (ht : mostPriority ps = some top) (hl : top.lag ≤ bound) : mostDesirable bound ps = .node top := by
  rw [mostDesirable, mostDesirableFuel, ht]
  exact if_pos hl

/-- otherwise: either that candidate or one whose lag is smaller by more than the bound -/
theorem else_top_or_much_fresher (bound : Int) (hb : 0 ≤ bound) (ps : List Pos) (top r : Pos)
    (ht : mostPriority ps = some top) (h : mostDesirable bound ps = .node r) :
    r = top ∨ r.lag < top.lag - bound :=
  have _ := hb  -- not needed: the result of the recursion is drawn from the filtered list
  (mDF_node bound _ ps r h).2 top ht

/-- the "top" candidate is offered and has maximal priority -/
theorem top_has_max_priority (ps : List Pos) (top : Pos) (ht : mostPriority ps = some top) :
    top ∈ ps ∧ ∀ p ∈ ps, p.prio ≤ top.prio :=
  ⟨mostPriority_mem ht, mostPriority_max ht⟩

/-- among equal (maximal) priorities it prefers the candidate with more transactions, then with less
lag: if the maximal-priority candidates' sets are totally ordered by inclusion, the top candidate's
set contains all of theirs, and no maximal-priority candidate with the same set has a smaller lag -/
theorem ties_prefer_superset_then_lag (ps : List Pos) (top : Pos) (ht : mostPriority ps = some top)
    (hwf : ∀ p ∈ ps, WF p.gtid)
    (hchain : ∀ p ∈ ps, ∀ q ∈ ps, p.prio = top.prio → q.prio = top.prio →
      GSubset p.gtid q.gtid ∨ GSubset q.gtid p.gtid) :
    ∀ p ∈ ps, p.prio = top.prio →
      GSubset p.gtid top.gtid ∧ (GSubset top.gtid p.gtid → top.lag ≤ p.lag) := by
  intro p hp hpM
  have hmax := mostPriority_max ht
  cases ps with
  | nil => cases ht
  | cons p0 r =>
    cases ht
    have step := priorityStep_tie (U := (· ∈ p0 :: r)) hwf hmax
      (fun p q hp hq => hchain p hp q hq)
    exact (List.foldl_select_all priorityStep_or (fun a q p ha hq => (step a q ha hq).1 p)
      (fun a q ha hq => (step a q ha hq).2) p0 r (fun _ h => h)
      (fun h => ⟨h, .refl p0⟩) p hp hpM).2

/-- with equal priorities the top candidate is the scan result of `findMostRecent…`, so with lags
within the bound the choice coincides with the most recent node -/
theorem equal_priority_is_most_recent (bound : Int) (p : Pos) (r : List Pos)
    (heq : ∀ q ∈ r, q.prio = p.prio) (hl : (scanMostRecent p r).lag ≤ bound) :
    mostDesirable bound (p :: r) = .node (scanMostRecent p r) ∧
    (detectSplitbrain (p :: r) (scanMostRecent p r) = false →
      ∃ m, findMostRecent (p :: r) = .node m ∧ m.host = (scanMostRecent p r).host) := by
  have hmp : mostPriority (p :: r) = some (scanMostRecent p r) :=
    congrArg some (fold_priorityStep_eq p.prio r p rfl heq)
  refine ⟨top_within_bound bound _ _ hmp hl, fun hd => ⟨scanMostRecent p r, ?_, rfl⟩⟩
  rw [findMostRecent_cons, hd]
  rfl

-- non-vacuity
private def k : Key := ⟨"00000000-0000-0000-0000-000000000001", ""⟩
private def a : Pos := ⟨"a", [(k, [⟨1, 5⟩])], 100, 5⟩
private def b : Pos := ⟨"b", [(k, [⟨1, 9⟩])], 3, 0⟩
example : (match mostDesirable 60 [a, b] with | .node p => p.host | _ => "?") = "b" := by decide
example : (match mostDesirable 100 [a, b] with | .node p => p.host | _ => "?") = "a" := by decide
example : (match mostDesirable 60 (filterOutHost [a, b] "b") with | .node p => p.host | _ => "?") = "a" := by decide

end C14
