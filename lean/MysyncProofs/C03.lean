/-
C03 — Exclusive manager: one lock holder, and only the holder acts.
Property theorems of C03; lemmas for (i) in MysyncProofs/Lemmas/LockServer.lean, LockStep.lean, LockInv.lean,
LockLemmas.lean, for (ii) in ManagerCore.lean.

(i)  the lock protocol: MysyncModel/Dcs/LockSys.lean — N clients running the SAME programs
     (`Zk.opAcquire`, `Zk.opRelease`) that the replay checks against the real `zkDCS`, one atomic
     server step per primitive, arbitrary interleaving, session expiry, reconnects, cache with any TTL.
     E5 (the server ends a session only after its client noticed the loss and while none of its
     operations is in flight) is the environment assumption of `told_true_means_holder` and
     `release_removes_only_own_lock`; both are FALSE without it (`stale_cache_without_E5`,
     `foreign_lock_removed_without_E5`, kernel-checked counter-models, see DESIGN.md).
(ii) only the holder acts: on the manager model (MysyncModel/App/Manager.lean) an iteration that is not
     told `true` takes no step at all; the two re-confirmations inside the switchover are C01's
     `promotion_order` / `promotion_needs`.  That no other state issues a cluster-wide action is a
     fact about the action alphabet of the real handlers, enforced by the replay monitor
     `C03:cluster-wide-action-without-lock` on every trace of every harness.
-/
import MysyncModel.Dcs.LockSys
import MysyncModel.App.Manager
import MysyncModel.App.Maintenance
import MysyncProofs.Lemmas.LockLemmas
import MysyncProofs.Lemmas.ManagerCore

namespace C03
open Zk LockSys

/-- the initial states the theorems start from: distinct non-empty identities, the lock key has a plain
existing parent and does not exist -/
def GoodInit (ids : List String) (lock : Path) (parents : List (Path × ZNode)) : Prop :=
  ids.Nodup ∧ lock ≠ [] ∧ (∀ pn ∈ parents, pn.2.owner = 0) ∧
  (lock.dropLast = [] ∨ ∃ n, (lock.dropLast, n) ∈ parents) ∧ (∀ pn ∈ parents, pn.1 ≠ lock) ∧
  (parents.map (·.1)).Nodup

private theorem inv_reach {ids : List String} {lock : Path} {parents : List (Path × ZNode)} (hi : GoodInit ids lock parents)
    (ttl : Int) (steps : List Step) (hg : ∀ st ∈ steps, st.guarded = true) :
    LockLemmas.Inv ids lock (run (init ids lock ttl parents) steps) := by
  obtain ⟨hids, hne, _, _, hnl, hnd⟩ := hi
  exact LockLemmas.inv_run (LockLemmas.inv_init hids hne hnl hnd ttl) steps hg

/-- Every `true` — fresh or from the cache, for any TTL — is given to the process that holds the lock at
that instant: the lock znode exists, carries its identity and belongs to its live session.
(`told` grows by one entry exactly when `AcquireLock` answers `true`.) -/
theorem told_true_means_holder (ids : List String) (lock : Path) (ttl : Int) (parents : List (Path × ZNode))
    (hi : GoodInit ids lock parents) (steps : List Step) (hg : ∀ st ∈ steps, st.guarded = true) (st : Step) (hst : st.guarded = true)
    (i : Nat) (cached : Bool)
    (h : (step (run (init ids lock ttl parents) steps) st).told = (i, cached) :: (run (init ids lock ttl parents) steps).told) :
    holds (step (run (init ids lock ttl parents) steps) st) i = true := by
  have hinv := LockLemmas.inv_step (inv_reach hi ttl steps hg) st hst
  obtain ⟨c', hc', hcache⟩ := LockLemmas.told_grows_cache _ st i cached h
  rw [LockLemmas.holds_iff, hinv.core.lock_eq]
  exact ⟨c', hc', ((hinv.ok i c' hc').1 hcache).2⟩

/-- at most one process can be the holder at any instant -/
theorem holder_unique (ids : List String) (lock : Path) (ttl : Int) (parents : List (Path × ZNode))
    (hi : GoodInit ids lock parents) (steps : List Step) (hg : ∀ st ∈ steps, st.guarded = true) (i j : Nat)
    (h1 : holds (run (init ids lock ttl parents) steps) i = true) (h2 : holds (run (init ids lock ttl parents) steps) j = true) :
    i = j := by
  have hinv := inv_reach hi ttl steps hg
  rw [LockLemmas.holds_iff, hinv.core.lock_eq] at h1 h2
  obtain ⟨ci, hci, hhi⟩ := h1
  obtain ⟨cj, hcj, hhj⟩ := h2
  exact hinv.core.holder_same hci hcj hhi hhj

-- (holds in every state, reachable or not: `hi`, `hg` are not needed)
set_option linter.unusedVariables false in
/-- a process whose session was lost is not told `true` again unless it re-acquired: right after the
(guarded) expiry of its session it neither holds the lock nor has a cache entry, so the next `true` can
only come from a primitive executed on a new session -/
theorem after_expiry_not_holder (ids : List String) (lock : Path) (ttl : Int) (parents : List (Path × ZNode))
    (hi : GoodInit ids lock parents) (steps : List Step) (hg : ∀ st ∈ steps, st.guarded = true) (i : Nat) (c : Client)
    (hc : (run (init ids lock ttl parents) steps).clients[i]? = some c)
    (he : step (run (init ids lock ttl parents) steps) (.expire i) ≠ run (init ids lock ttl parents) steps) :
    let σ' := step (run (init ids lock ttl parents) steps) (.expire i)
    holds σ' i = false ∧ (∀ c', σ'.clients[i]? = some c' → c'.cache = none) := by
  exact LockLemmas.expired_not_holder (Or.inl rfl) he

-- (holds in every state, reachable or not: `hi`, `hg` are not needed)
set_option linter.unusedVariables false in
/-- the same when the session ends in the middle of an `AcquireLock` of that process (`Step.expireAcq`, the weaker form
of E5): right after it the process neither holds the lock nor has a cache entry; the `AcquireLock` in flight can only
answer `true` from a primitive executed on a new session (`told_true_means_holder` covers that answer) -/
theorem after_expiry_during_acquire_not_holder (ids : List String) (lock : Path) (ttl : Int) (parents : List (Path × ZNode))
    (hi : GoodInit ids lock parents) (steps : List Step) (hg : ∀ st ∈ steps, st.guarded = true) (i : Nat) (c : Client)
    (hc : (run (init ids lock ttl parents) steps).clients[i]? = some c)
    (he : step (run (init ids lock ttl parents) steps) (.expireAcq i) ≠ run (init ids lock ttl parents) steps) :
    let σ' := step (run (init ids lock ttl parents) steps) (.expireAcq i)
    holds σ' i = false ∧ (∀ c', σ'.clients[i]? = some c' → c'.cache = none) := by
  exact LockLemmas.expired_not_holder (Or.inr rfl) he

/-- releasing never removes a lock owned by another process: whenever a `delete` of the lock key is
executed for client i, the znode it removes (if any) carries i's identity -/
theorem release_removes_only_own_lock (ids : List String) (lock : Path) (ttl : Int) (parents : List (Path × ZNode))
    (hi : GoodInit ids lock parents) (steps : List Step) (hg : ∀ st ∈ steps, st.guarded = true) (i : Nat) (c : Client)
    (ver : Int) (k : Resp → Prog Res)
    (hc : (run (init ids lock ttl parents) steps).clients[i]? = some c)
    (hp : c.prog = some (.call (.delete lock ver) k)) :
    lockData (run (init ids lock ttl parents) steps) = some c.id ∨ lockData (run (init ids lock ttl parents) steps) = none := by
  have hinv := inv_reach hi ttl steps hg
  left
  cases ((hinv.ok i c hc).pending hp).2.call with
  | relDel _ _ _ hh =>
    obtain ⟨n, hf, hd, _⟩ := hh
    unfold lockData
    rw [hinv.core.lock_eq, hf, ← hd]
    rfl

/-- no lock without asking the server within the TTL: a cached `true` was preceded by a confirmation at
most `ttl` ago — with TTL 0 the cache never answers -/
theorem ttl_zero_never_cached (ids : List String) (lock : Path) (parents : List (Path × ZNode)) (steps : List Step) (i : Nat) :
    (i, true) ∉ (run (init ids lock 0 parents) steps).told := by
  exact (LockLemmas.ttl_run (LockLemmas.ttl_init ids lock parents) steps).2.2 i

/-! ### the role of E5: counter-models without it (both replayed on the real client, see DESIGN.md) -/

def twoClients : Sys := init ["A", "B"] ["ns", "manager"] 30 [(["ns"], { data := "" })]

/-- the server ends A's session before A noticed: B acquires, A is still told `true` from its cache -/
theorem stale_cache_without_E5 :
    let σ := run twoClients [.beginAcquire 0, .prim 0, .prim 0, .expireAny 0, .beginAcquire 1, .prim 1, .prim 1, .tick 1, .beginAcquire 0]
    σ.told.head? = some (0, true) ∧ holds σ 0 = false ∧ holds σ 1 = true := by
  decide

/-- A's session ends between the read and the delete of its `ReleaseLock`; B acquires; A's delete — sent
on A's next session — removes B's lock (lock znodes are never `set`, so their version is always 0) -/
theorem foreign_lock_removed_without_E5 :
    let σ0 := run twoClients [.beginAcquire 0, .prim 0, .prim 0, .beginRelease 0, .prim 0, .expireAny 0, .event 0, .reconnect 0,
                               .beginAcquire 1, .prim 1, .prim 1]
    let σ1 := step σ0 (.prim 0)
    holds σ0 1 = true ∧ lockData σ0 = some "B" ∧ lockData σ1 = none ∧ (σ1.clients[1]?.bind (·.cache)).isSome = true := by
  decide

/-- Why `ReleaseLock` must re-read the owner before EVERY delete attempt (it did not before the `fix:` commit
recorded in known_findings.json — found by this check on the real client): lock znodes are created fresh and
never `set`, so their version is always 0; a delete that was applied but whose reply was lost, re-sent blindly
after another process acquired the lock, removes that process's lock — no session expiry needed. -/
theorem blind_retried_delete_removes_foreign_lock :
    let lock : Path := ["ns", "manager"]
    let s0 : Server := { nodes := [(["ns"], { data := "" })], live := [1, 2] }
    let s1 := (s0.step 1 (.create lock "A" true)).1          -- A holds the lock
    let s2 := (s1.step 1 (.delete lock 0)).1                 -- A releases: applied, reply lost
    let s3 := (s2.step 2 (.create lock "B" true)).1          -- B acquires
    (s3.find? lock).map (·.data) = some "B" ∧
    (s3.step 1 (.delete lock 0)) = (s2, .deleted) := by      -- A's re-sent delete removes B's lock
  decide

/-! ### (ii) only the holder acts -/

/-- an iteration that is not told `true` (or has no connection) does nothing and steps down -/
theorem no_lock_no_action (cfg : Manager.Cfg) (i : Manager.In) (h : i.connected = false ∨ i.lockHeld = false) :
    (Manager.stateManager cfg i).steps = [] ∧ (Manager.stateManager cfg i).next ≠ Manager.State.manager :=
  ManagerLemmas.stateManager_no_lock cfg i h

/-- the maintenance handler leaves the mode — i.e. writes the master key, repairs the cluster, rebuilds the active list,
deletes the maintenance record — only if it was told it holds the lock; without the lock it only touches its own
marker file and steps back to candidate -/
theorem leaving_maintenance_needs_the_lock (maintFile : Bool) (maint : Manager.MaintRead) (i : Maintenance.LeaveIn) :
    ∀ a ∈ (Maintenance.stateMaintenance maintFile maint false i).1, a = Maintenance.Act.writeMaintFile ∨ a = Maintenance.Act.removeMaintFile := by
  -- without the lock `tryLeave` is `([removeMaintFile], candidate)`; in front of it comes `writeMaintFile` or nothing
  have hpre : ∀ a ∈ (if maintFile then [] else [Maintenance.Act.writeMaintFile]), a = .writeMaintFile ∨ a = .removeMaintFile := by
    cases maintFile <;> simp
  have hleave : ∀ a ∈ (if maintFile then [] else [Maintenance.Act.writeMaintFile]) ++ [.removeMaintFile],
      a = .writeMaintFile ∨ a = .removeMaintFile :=
    fun a ha => (List.mem_append.1 ha).elim (hpre a) fun h => Or.inr (List.mem_singleton.1 h)
  rcases maint with _ | _ | ⟨_, _, _ | _⟩
  · exact hleave
  · exact hpre
  · exact hpre
  · exact hleave

/-- the candidate and first-run handlers return a state and nothing else: their models have no action at all (their
real counterparts are compared with these models on every run of the maintenance harness, and the simulation's
monitor `C03:cluster-wide-action-without-lock` watches every statement and coordination write of every daemon) -/
theorem candidate_only_changes_state (connected upd lock : Bool) (maint : Manager.MaintRead) :
    Maintenance.stateCandidate connected upd maint lock = Manager.State.manager → lock = true := by
  fun_cases Maintenance.stateCandidate connected upd maint lock <;> simp_all


-- non-vacuity: the guarded system does reach states with a holder, a cache entry and a hand-over
example : holds (run twoClients [.beginAcquire 0, .prim 0, .prim 0]) 0 = true := by decide
example : (run twoClients [.beginAcquire 0, .prim 0, .prim 0, .beginRelease 0, .prim 0, .prim 0, .beginAcquire 1, .prim 1, .prim 1]).told
    = [(1, false), (0, false)] := by decide
-- … and `expireAcq` does fire in the middle of an AcquireLock: A's create was applied (reply lost, A is the server-side holder
-- without knowing), A's session ends, the znode goes with it; B acquires; A's re-sent create on its next session is refused
example :
    let σ0 := run twoClients [.beginAcquire 0, .prim 0, .primLostRetry 0]
    let σ := run σ0 [.expireAcq 0, .beginAcquire 1, .prim 1, .prim 1, .reconnect 0, .prim 0]
    holds σ0 0 = true ∧ lockData (step σ0 (.expireAcq 0)) = none ∧ σ.told = [(1, false)] ∧ holds σ 0 = false ∧ holds σ 1 = true := by
  decide

end C03
