/-
C10 — Repair converges to the canonical topology without changing the master.
Property theorems of C10; lemmas in MysyncProofs/Lemmas/RepairLemmas.lean.
Model: MysyncModel/App/Repair.lean (`repairSlaveNode` non-cascade part, bounded replication repair,
finite abstraction `absPass`).  The action alphabet of the model contains no write of the recorded
master and every action targets the node under repair; "never sends a statement to an unregistered
host" and "never changes the recorded master" are enforced on the real code by the replay monitors
(decoy servers; any write of the `master` key).  Master un-fencing is C17 (`masterPass`) and C18.
-/
import MysyncModel.App.Repair
import MysyncProofs.Lemmas.RepairLemmas

namespace C10
open NS Repair RepairLemmas

/-- never points a server at itself, and re-points only to the recorded master -/
theorem repoint_only_to_master (cfg : Cfg) (host : String) (st : NodeState) (master : String) (rs : Option RepairState)
    (now : Int) (c p : Bool) (hne : host ≠ master) (to : String)
    (h : Act.changeMaster to ∈ (repairSlave cfg host st master rs now c p).1 ∨ Act.resetSlaveAlgorithm to ∈ (repairSlave cfg host st master rs now c p).1) :
    to = master ∧ to ≠ host := by
  have : to = master := by
    rcases h with h | h
    · exact repairSlave_changeMaster_mem cfg host st master rs now c p to h
    · exact (tryRepair_reset_mem cfg rs now master c to
        (repairSlave_reset_mem cfg host st master rs now c p to h).2.2).1
  subst this
  exact ⟨rfl, fun e => hne e.symm⟩

/-- a replica's replication configuration is reset only if aggressive repair is enabled, the replica
is in (non-permanent) replication error, the gentler method is exhausted, the reset attempts are not,
and the cooldown since the last attempt has passed -/
theorem reset_only_if_entitled (cfg : Cfg) (host : String) (st : NodeState) (master : String) (rs : Option RepairState)
    (now : Int) (c p : Bool) (to : String)
    (h : Act.resetSlaveAlgorithm to ∈ (repairSlave cfg host st master rs now c p).1) :
    cfg.aggressive = true ∧ st.permBroken = false ∧ (∃ sl, st.slave = some sl ∧ sl.state = .error) ∧
    ∃ s, rs = some s ∧ cooldownPassed cfg s now = true ∧ s.startCount ≥ cfg.maxAttempts ∧ s.resetCount < cfg.maxAttempts := by
  obtain ⟨hp, hsl, ht⟩ := repairSlave_reset_mem cfg host st master rs now c p to h
  obtain ⟨_, ha, hs⟩ := tryRepair_reset_mem cfg rs now master c to ht
  exact ⟨ha, hp, hsl, hs⟩

/-- permanently broken replication is left alone -/
theorem perm_broken_untouched (cfg : Cfg) (host : String) (st : NodeState) (master : String) (rs : Option RepairState)
    (now : Int) (c p : Bool) (sl : SlaveState) (hs : st.slave = some sl) (he : sl.state = .error) (hp : st.permBroken = true)
    (hm : st.isMaster = false) (hc : st.isCascade = false) :
    (repairSlave cfg host st master rs now c p).2 = rs ∧
    ∀ to, Act.resetSlaveAlgorithm to ∉ (repairSlave cfg host st master rs now c p).1 := by
  refine ⟨?_, fun to hmem => ?_⟩
  · rw [repairSlave_snd]
    simp [hm, hc, hs, he, hp]
  · have := (repairSlave_reset_mem cfg host st master rs now c p to hmem).1
    rw [hp] at this
    cases this

/-- attempt limit: the per-method counters never pass the limit, each attempt is counted once -/
theorem attempts_bounded (cfg : Cfg) (s : RepairState) (now : Int) (master : String) (c : Bool)
    (h1 : s.startCount ≤ cfg.maxAttempts) (h2 : s.resetCount ≤ cfg.maxAttempts) (hm : 0 ≤ cfg.maxAttempts) :
    ∀ s', (tryRepair cfg (some s) now master c).2 = some s' →
      s'.startCount ≤ cfg.maxAttempts ∧ s'.resetCount ≤ cfg.maxAttempts ∧
      (s'.startCount + s'.resetCount = s.startCount + s.resetCount + (tryRepair cfg (some s) now master c).1.length) := by
  intro s' hs'
  rcases tryRepair_some_cases cfg s now master c with ⟨e, _⟩ | ⟨e, _, _, hlt⟩ | ⟨e, _, _, _, _, hlt⟩
  all_goals
    rw [e] at hs' ⊢
    cases hs'
    simp only [List.length_cons, List.length_nil]
    omega

/-- cooldown: after an attempt at `now`, no further attempt before `now + cooldown` has passed -/
theorem cooldown_respected (cfg : Cfg) (s : RepairState) (now now' : Int) (master : String) (c c' : Bool) (s' : RepairState)
    (hc : 0 ≤ cfg.cooldown)
    (h1 : (tryRepair cfg (some s) now master c).1 ≠ []) (hs : (tryRepair cfg (some s) now master c).2 = some s')
    (h2 : (tryRepair cfg (some s') now' master c').1 ≠ []) : now' - now > cfg.cooldown := by
  have hla : s'.lastAttempt = now := by
    rcases tryRepair_some_cases cfg s now master c with ⟨e, _⟩ | ⟨e, _⟩ | ⟨e, _⟩
    · rw [e] at h1; exact absurd rfl h1
    · rw [e] at hs; cases hs; rfl
    · rw [e] at hs; cases hs; rfl
  have hcd : cooldownPassed cfg s' now' = true := by
    rcases tryRepair_some_cases cfg s' now' master c' with ⟨e, _⟩ | ⟨_, h, _⟩ | ⟨_, h, _⟩
    · rw [e] at h2; exact absurd rfl h2
    · exact h
    · exact h
  simp only [cooldownPassed, decide_eq_true_eq] at hcd
  omega

/-- a fresh repair state never acts in the iteration that creates it -/
theorem fresh_state_waits (cfg : Cfg) (now : Int) (master : String) (c : Bool) :
    ∀ a ∈ (tryRepair cfg none now master c).1, a = Act.createRepairState := by
  intro a ha
  rw [tryRepair_none] at ha
  cases c <;> simp at ha
  exact ha

/-- stale master: made read-only, taken offline with semi-sync off, re-pointed to the recorded master
and marked for recovery, in that order, in one pass -/
theorem stale_master_pass (cfg : Cfg) (host : String) (st : NodeState) (master : String) (rs : Option RepairState)
    (now : Int) (c p : Bool) (hm : st.isMaster = true) :
    (repairSlave cfg host st master rs now c p).1 =
      (if st.isReadOnly then [] else [Act.setReadOnly]) ++ [.setOffline, .semiSyncDisable, .changeMaster master, .setRecovery] := by
  rw [repairSlave_fst]
  simp [hm]

/-- every reachable node that is not read-only receives the read-only request first -/
theorem writable_node_made_readonly (cfg : Cfg) (host : String) (st : NodeState) (master : String) (rs : Option RepairState)
    (now : Int) (c p : Bool) (h : st.isReadOnly = false) :
    (repairSlave cfg host st master rs now c p).1.head? = some .setReadOnly := by
  rw [repairSlave_fst]
  simp [h]

/-- attempts left for a replica in error: the ranking function of the bounded repair, for ANY attempt limit -/
def budgetLeft (cfg : Cfg) (s : RepairState) : Nat :=
  (cfg.maxAttempts - s.startCount).toNat + (if cfg.aggressive then (cfg.maxAttempts - s.resetCount).toNat else 0)

/-- every attempt uses up one unit of the budget … -/
theorem attempt_uses_budget (cfg : Cfg) (s s' : RepairState) (now : Int) (master : String) (c : Bool)
    (h : (tryRepair cfg (some s) now master c).1 ≠ []) (hs : (tryRepair cfg (some s) now master c).2 = some s') :
    budgetLeft cfg s' + 1 = budgetLeft cfg s := by
  rcases tryRepair_some_cases cfg s now master c with ⟨e, _⟩ | ⟨e, _, _, hlt⟩ | ⟨e, _, _, _, ha, hlt⟩
  · rw [e] at h; exact absurd rfl h
  · rw [e] at hs; cases hs
    simp only [budgetLeft]
    omega
  · rw [e] at hs; cases hs
    simp only [budgetLeft, ha, if_true]
    omega

/-- … and without budget nothing is attempted: at most `budgetLeft` attempts are ever made on a replica
(by induction: `attempts_total_bounded`) -/
theorem no_budget_no_attempt (cfg : Cfg) (s : RepairState) (now : Int) (master : String) (c : Bool)
    (h : budgetLeft cfg s = 0) : (tryRepair cfg (some s) now master c).1 = [] ∧ (tryRepair cfg (some s) now master c).2 = some s := by
  rcases tryRepair_some_cases cfg s now master c with ⟨e, _⟩ | ⟨_, _, _, hlt⟩ | ⟨_, _, _, _, ha, hlt⟩
  · rw [e]; exact ⟨rfl, rfl⟩
  · simp only [budgetLeft] at h
    omega
  · simp only [budgetLeft, ha, if_true] at h
    omega

/-- run `tryRepair` at the given times, counting attempts -/
def runTry (cfg : Cfg) (master : String) : RepairState → List Int → Nat × RepairState
  | s, [] => (0, s)
  | s, now :: rest =>
    let r := tryRepair cfg (some s) now master true
    match r.2 with
    | some s' => let (k, s'') := runTry cfg master s' rest; (k + r.1.length, s'')
    | none => (0, s)

theorem attempts_total_bounded (cfg : Cfg) (master : String) (s : RepairState) (times : List Int) :
    (runTry cfg master s times).1 ≤ budgetLeft cfg s := by
  induction times generalizing s with
  | nil => simp [runTry]
  | cons now rest ih =>
    rcases tryRepair_some_cases cfg s now master true with ⟨e, _⟩ | ⟨e, _⟩ | ⟨e, _⟩
    · have := ih s
      simp only [runTry, e, List.length_nil]
      omega
    · have hb := attempt_uses_budget cfg s _ now master true (by rw [e]; simp) (by rw [e])
      have := ih { s with startCount := s.startCount + 1, lastAttempt := now }
      simp only [runTry, e, List.length_cons, List.length_nil]
      omega
    · have hb := attempt_uses_budget cfg s _ now master true (by rw [e]; simp) (by rw [e])
      have := ih { s with resetCount := s.resetCount + 1, lastAttempt := now }
      simp only [runTry, e, List.length_cons, List.length_nil]
      omega

/-- the attempt bookkeeping seen through the finite abstraction used for convergence -/
def budgetOf (cfg : Cfg) (rs : Option RepairState) (now : Int) : Budget :=
  match rs with
  | none => .noState
  | some s =>
    if !cooldownPassed cfg s now then .mustWait
    else match suitable cfg s with
      | some .startSlave => .mayStart
      | some .resetSlave => .mayReset
      | none => .exhausted

theorem tryRepair_refines_budget (cfg : Cfg) (rs : Option RepairState) (now : Int) (master : String) :
    (tryRepair cfg rs now master true).1 =
      match budgetOf cfg rs now with
      | .noState => [.createRepairState]
      | .mustWait => []
      | .mayStart => [.startSlave]
      | .mayReset => [.resetSlaveAlgorithm master]
      | .exhausted => [] := by
  cases rs with
  | none => simp [tryRepair_none, budgetOf]
  | some s =>
    rcases tryRepair_some_cases cfg s now master true with ⟨e, hcd | hs⟩ | ⟨e, hcd, hs, _⟩ | ⟨e, hcd, hs, _⟩
    · simp [e, budgetOf, hcd]
    · cases hcd : cooldownPassed cfg s now <;> simp [e, budgetOf, hcd, hs]
    · simp [e, budgetOf, hcd, hs]
    · simp [e, budgetOf, hcd, hs]

/-- CONVERGENCE over the whole finite table: from every abstract per-node state, with or without
aggressive repair, whatever the environment answers to the START REPLICA attempts, four fault-free
passes with the cooldown elapsing in between end in the canonical state (read-only, not claiming
master, replicating from the recorded master, running) or in one of the property's sinks
(replication broken permanently or beyond the allowed attempts, or not a replica at all) -/
theorem repair_converges (agg c1 c2 c3 c4 : Bool) (n : Abs) :
    let r := absPass agg c4 true (absPass agg c3 true (absPass agg c2 true (absPass agg c1 true n)))
    r.canonical = true ∨ r.sink = true := by
  -- `rank` starts at most 4 and every pass lowers it
  have h1 := rank_absPass agg c1 n
  have h2 := rank_absPass agg c2 (absPass agg c1 true n)
  have h3 := rank_absPass agg c3 (absPass agg c2 true (absPass agg c1 true n))
  have h4 := rank_absPass agg c4 (absPass agg c3 true (absPass agg c2 true (absPass agg c1 true n)))
  have := rank_le n
  exact settled_of_rank _ (by omega)

/-- … and the canonical state and the sinks are fixed points (no flapping) -/
theorem canonical_is_stable (agg c t : Bool) (n : Abs) (h : n.canonical = true) : (absPass agg c t n).canonical = true := by
  -- a canonical node takes none of the repair branches: the pass returns it with `readOnly := true`
  obtain ⟨ro, cm, s, r, b, o, m⟩ := n
  simp only [Abs.canonical, Bool.and_eq_true, Bool.not_eq_true', beq_iff_eq] at h
  obtain ⟨⟨⟨rfl, rfl⟩, rfl⟩, rfl⟩ := h
  rfl

-- non-vacuity
example : (absPass true false true (absPass true false true (absPass true false true
    ⟨false, false, .other, .errTemp, .noState, false, false⟩))).canonical = true := by decide +kernel

end C10
