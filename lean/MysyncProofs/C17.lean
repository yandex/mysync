/-
C17 — Offline-mode policy: thresholds, hysteresis and per-zone cap.
Property theorems of C17; lemmas in MysyncProofs/Lemmas/OfflineLemmas.lean.
Model: MysyncModel/App/Offline.lean.
-/
import MysyncModel.App.Offline
import MysyncProofs.Lemmas.OfflineLemmas

namespace C17
open NS Offline OfflineLemmas

/-- a replica is taken offline for lag only when it is online, the master is writable, its lag
exceeds the enable threshold and the zone filter agrees -/
theorem offline_only_if (cfg : Cfg) (h : String) (st : NodeState) (mro : Bool) (cs : ClusterState) (p : Int)
    (hyp : lagOffline cfg h st mro cs p = true) :
    st.isOffline = false ∧ mro = false ∧
    (∃ sl lag, st.slave = some sl ∧ sl.lag = some lag ∧ lag > cfg.enableLag) ∧
    canSetOffline cfg h cs p = true := by
  exact OfflineLemmas.lagOffline_true cfg h st mro cs p hyp

/-- for a percentage strictly between 0 and 100 the filter's "yes" means that the share of offline
replicas in the zone, counting those taken offline earlier in the same pass and this one, stays
within the percentage -/
theorem cap_respected (cfg : Cfg) (h : String) (cs : ClusterState) (p : Int)
    (h0 : 0 < cfg.maxOfflinePct) (h100 : cfg.maxOfflinePct < 100)
    (hyp : canSetOffline cfg h cs p = true) :
    let c := azCounts cfg.azSeparator (getAZ h cfg.azSeparator) cs
    0 < c.1 ∧ (100 * (c.2 + p + 1)) / c.1 ≤ cfg.maxOfflinePct := by
  have hnn := azCounts_fst_nonneg cfg.azSeparator (getAZ h cfg.azSeparator) cs
  unfold canSetOffline at hyp
  rw [if_neg (by omega), if_neg (by omega)] at hyp
  dsimp only at hyp
  split at hyp
  · cases hyp
  · next hz =>
    have : (azCounts cfg.azSeparator (getAZ h cfg.azSeparator) cs).1 ≠ 0 := by simpa using hz
    exact ⟨by omega, of_decide_eq_true hyp⟩

theorem pct_0_never (cfg : Cfg) (h : String) (cs : ClusterState) (p : Int) (hp : cfg.maxOfflinePct ≤ 0) :
    canSetOffline cfg h cs p = false := by
  unfold canSetOffline
  rw [if_pos hp]

theorem pct_100_always (cfg : Cfg) (h : String) (cs : ClusterState) (p : Int) (hp : 100 ≤ cfg.maxOfflinePct) :
    canSetOffline cfg h cs p = true := by
  unfold canSetOffline
  rw [if_neg (by omega), if_pos hp]

/-- the accumulation over one pass, for EVERY visiting order `l`: each host taken offline for lag was
allowed by the filter given exactly the number of same-zone hosts taken offline earlier in the pass -/
theorem pass_counts_earlier_in_same_pass (cfg : Cfg) (master : String) (cs : ClusterState)
    (l : List (String × NodeState)) (res : List String) (hres : lagPass cfg master cs l [] = res) :
    ∀ i h, res[i]? = some h →
      h ≠ master ∧
      ∃ st, (h, st) ∈ l ∧
        canSetOffline cfg h cs
          (((res.take i).filter fun t => getAZ t cfg.azSeparator == getAZ h cfg.azSeparator).length : Int) = true := by
  subst hres
  obtain ⟨suf, h1, h2⟩ := lagPass_inv cfg master cs l []
  simp only [List.reverse_nil, List.nil_append] at h1 h2
  rw [h1]
  exact h2

/-- a replica is brought online only when it is offline, its lag is at or below the disable
threshold, its replication is not permanently broken and its resetup status is fresh and negative -/
theorem online_only_if (cfg : Cfg) (h : String) (st : NodeState) (mro : Bool) (cs : ClusterState) (i : SlaveIn)
    (hyp : Act.setOnline ∈ (slavePass cfg h st mro cs i).1) :
    st.isOffline = true ∧ st.permBroken = false ∧ i.resetup = .ok false false ∧
    (∃ sl lag, st.slave = some sl ∧ sl.lag = some lag ∧ lag ≤ cfg.disableLag) := by
  obtain ⟨sl, lag, hs, hl, h⟩ := mem_slavePass cfg h st mro cs i _ hyp
  simp only [reduceCtorEq, false_and, and_false, false_or, or_false, true_and] at h
  obtain ⟨hoff, hlag, hbroken, hresetup⟩ := h
  exact ⟨hoff, hbroken, hresetup, sl, lag, hs, hl, hlag⟩

/-- between the thresholds the mode of a replica that is not permanently broken is left unchanged -/
theorem hysteresis (cfg : Cfg) (h : String) (st : NodeState) (mro : Bool) (cs : ClusterState) (i : SlaveIn)
    (hb : st.permBroken = false)
    (hl : ∀ sl lag, st.slave = some sl → sl.lag = some lag → cfg.disableLag < lag ∧ lag ≤ cfg.enableLag) :
    Act.setOnline ∉ (slavePass cfg h st mro cs i).1 ∧ Act.setOffline ∉ (slavePass cfg h st mro cs i).1 := by
  refine ⟨fun hyp => ?_, fun hyp => ?_⟩
  · obtain ⟨_, _, _, sl, lag, hs, hlag, hle⟩ := online_only_if cfg h st mro cs i hyp
    have := (hl sl lag hs hlag).1
    omega
  · obtain ⟨sl, lag, hs, hlag, h⟩ := mem_slavePass cfg h st mro cs i _ hyp
    simp only [reduceCtorEq, false_and, and_false, false_or, or_false, true_and, hb] at h
    have := (hl sl lag hs hlag).2
    omega

/-- replicas without a known lag are never touched -/
theorem unknown_lag_untouched (cfg : Cfg) (h : String) (st : NodeState) (mro : Bool) (cs : ClusterState) (i : SlaveIn)
    (hl : st.slave = none ∨ ∃ sl, st.slave = some sl ∧ sl.lag = none) :
    slavePass cfg h st mro cs i = ([], false) := by
  unfold slavePass
  rcases hl with hs | ⟨sl, hs, hl⟩
  · simp only [hs]
  · simp only [hs, hl]

/-- permanently broken replicas are taken offline at most one per configured interval: two
consecutive "yes" answers of the rate limiter are more than the interval apart -/
theorem broken_rate_limit (cfg : Cfg) (last now1 now2 l1 l2 : Int)
    (h1 : brokenStep cfg last now1 = (true, l1)) (h2 : brokenStep cfg l1 now2 = (true, l2)) :
    now2 - now1 > cfg.enableInterval := by
  obtain ⟨_, e1⟩ := OfflineLemmas.brokenStep_true cfg last now1 l1 h1
  obtain ⟨g, _⟩ := OfflineLemmas.brokenStep_true cfg l1 now2 l2 h2
  omega

/-- a broken replica is taken offline by the rate-limited branch only when the stored time is older
than the interval, and the stored time is refreshed first -/
theorem broken_offline_only_if (cfg : Cfg) (h : String) (st : NodeState) (mro : Bool) (cs : ClusterState) (i : SlaveIn)
    (hyp : Act.updateLastShutdown ∈ (slavePass cfg h st mro cs i).1) :
    st.permBroken = true ∧ st.isOffline = false ∧ ∃ age, i.lastShutdownAge = some age ∧ age > cfg.enableInterval := by
  obtain ⟨_, _, _, _, h⟩ := mem_slavePass cfg h st mro cs i _ hyp
  simpa only [reduceCtorEq, false_and, and_false, false_or, or_false, true_and] using h

/-- the master is kept online unless it is marked for recovery, and is never taken offline here -/
theorem master_online_unless_marked (st : NodeState) (rec : Bool) :
    (masterPass st rec = [Act.setOnline] ↔ (st.isOffline = true ∧ rec = false)) ∧
    Act.setOffline ∉ masterPass st rec := by
  unfold masterPass
  cases st.isOffline <;> cases rec <;> simp

-- non-vacuity
private def cfg0 : Cfg := ⟨100, 30, 50, "-", 900⟩
private def lagging : NodeState := { pingOk := true, slave := some { lag := some 500, state := .running } }
private def mst : NodeState := { pingOk := true, isMaster := true }
private def cs0 : ClusterState := [("m", mst), ("a-1", lagging), ("a-2", lagging)]
example : lagPass cfg0 "m" cs0 cs0 [] = ["a-1"] := by decide
example : canSetOffline cfg0 "a-2" cs0 1 = false ∧ canSetOffline cfg0 "a-1" cs0 0 = true := by decide

end C17
