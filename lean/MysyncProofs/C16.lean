/-
C16 — Cascade replicas: source resolution terminates, never self, never quorum.
Property theorems of C16; the predicates `anc`, `Healthy`, `Already` and the lemmas are in
MysyncProofs/Lemmas/CascadeLemmas.lean.
Model: MysyncModel/App/Cascade.lean (`findBestStreamFrom`, `repairCascadeNode`), NodeState.lean (HA counts),
MysyncModel/App/Observe.lean (`getNodeState`: the last two theorems).
-/
import MysyncModel.App.Cascade
import MysyncModel.App.Observe
import MysyncProofs.Lemmas.CascadeLemmas

namespace C16
open NS Gtid Cascade CascadeLemmas

/-- resolving the source always terminates — for every finite topology map, including cycles and
self-references: the fuel `topo.length + 2` never runs out -/
theorem bsf_total (reasonable : Int) (self : String) (cs : ClusterState) (master : String) (topo : Topology) :
    findBestStreamFrom reasonable self cs master topo ≠ .outOfFuel := by
  intro h
  cases h ▸ bsf_spec reasonable self cs master topo

/-- never the replica itself, even with cyclic configuration -/
theorem bsf_never_self (reasonable : Int) (self : String) (cs : ClusterState) (master : String) (topo : Topology)
    (hm : self ≠ master) : findBestStreamFrom reasonable self cs master topo ≠ .host self := by
  intro h
  cases h ▸ bsf_spec reasonable self cs master topo with
  | master => exact hm rfl
  | ancestor _ _ _ hr => exact hr rfl

/-- it yields the configured source when that is what the replica already streams from (even if that source
is not a registered host) … -/
theorem bsf_configured_if_already (reasonable : Int) (self : String) (cs : ClusterState) (master : String) (topo : Topology)
    (hsf : streamFromOf topo self ≠ "") (hns : streamFromOf topo self ≠ self)
    (ha : Already cs self (streamFromOf topo self)) :
    findBestStreamFrom reasonable self cs master topo = .host (streamFromOf topo self) := by
  obtain ⟨me, sl, hme, hsl, hst, hmh⟩ := ha
  simp [findBestStreamFrom, bsfLoop, hsf, hns, hme, hsl, hst, hmh]

/-- … an unregistered configured source that the replica does not already stream from yields the master
(without `hna` the result is the source itself, `bsf_configured_if_already`; without `hself` it is the
nil dereference `clusterState[node.Host()]`, see the example at the end of the file) -/
theorem bsf_master_if_unregistered (reasonable : Int) (self : String) (cs : ClusterState) (master : String) (topo : Topology)
    (hself : (cs.get? self).isSome)
    (hn : cs.get? (streamFromOf topo self) = none) (hna : ¬ Already cs self (streamFromOf topo self)) :
    findBestStreamFrom reasonable self cs master topo = .host master := by
  obtain ⟨me, hme⟩ := Option.isSome_iff_exists.1 hself
  simp only [← alreadyB_iff, alreadyB, hme] at hna
  -- the first iteration; what `simp` leaves is the "already streaming" test of `bsfLoop`, which is `hna`
  simp [findBestStreamFrom, bsfLoop, hme, hn]
  exact fun _ _ h => absurd h hna

/-- … or when it is healthy -/
theorem bsf_configured_if_healthy (reasonable : Int) (self : String) (cs : ClusterState) (master : String) (topo : Topology)
    (hsf : streamFromOf topo self ≠ "") (hns : streamFromOf topo self ≠ self) (hme : (cs.get? self).isSome)
    (hh : Healthy reasonable cs (streamFromOf topo self)) :
    findBestStreamFrom reasonable self cs master topo = .host (streamFromOf topo self) := by
  obtain ⟨c, hc, h1, h2, h3⟩ := hh
  obtain ⟨me, hme⟩ := Option.isSome_iff_exists.1 hme
  simp [findBestStreamFrom, bsfLoop, hsf, hns, hme, hc, h1, h2, h3]

/-- otherwise the nearest healthy ancestor along the configured chain, otherwise the master: a result
other than the master is the n-th ancestor for some n ≥ 1, every nearer ancestor is unhealthy, and
the result is healthy (or is the configured source the replica already streams from) -/
theorem bsf_nearest_healthy (reasonable : Int) (self : String) (cs : ClusterState) (master : String) (topo : Topology)
    (r : String) (h : findBestStreamFrom reasonable self cs master topo = .host r) (hr : r ≠ master) :
    ∃ n, 1 ≤ n ∧ anc topo self n = r ∧
      (∀ j, 1 ≤ j → j < n → ¬ Healthy reasonable cs (anc topo self j)) ∧
      (Healthy reasonable cs r ∨ (n = 1 ∧ Already cs self r)) := by
  cases h ▸ bsf_spec reasonable self cs master topo with
  | master => exact absurd rfl hr
  | ancestor n hn ha _ hbad hres => exact ⟨n, hn, ha, hbad, hres⟩

/-- no nil dereference, whatever the configured sources are: an unregistered `stream_from` falls back to the
master (since the fix: commit recorded in known_findings.json; before it this needed every source to be registered) -/
theorem bsf_no_panic_wellformed (reasonable : Int) (self : String) (cs : ClusterState) (master : String) (topo : Topology)
    (hself : (cs.get? self).isSome) :
    ∃ r, findBestStreamFrom reasonable self cs master topo = .host r := by
  match findBestStreamFrom reasonable self cs master topo, bsf_spec reasonable self cs master topo with
  | _, .master | _, .ancestor .. => exact ⟨_, rfl⟩
  | _, .panic h => rw [h] at hself; cases hself

/-- a cascade replica that has a replica status is moved to another source only once the new
source's transactions contain its own (read AFTER the candidate's snapshot), never when it is ahead
or split-brained, and never to itself -/
theorem guarded_move (host : String) (st : NodeState) (cs : ClusterState) (i : In) (sl : SlaveState) (to : String)
    (hs : st.slave = some sl) (hmem : Act.changeMaster to ∈ repairCascade host st cs i) :
    to ≠ host ∧ i.candidate = .host to ∧ to ≠ sl.masterHost ∧
    ∃ mine c ctext u, i.fresh = .gtid mine ∧ cs.get? to = some c ∧
      ctext = (if c.isMaster then c.masterExecuted else c.slave.map (·.executed)) ∧ ctext.isSome ∧
      i.uuid = some u ∧
      isSlaveBehindOrEqual (parseD mine) (parseD (ctext.getD "")) = true ∧
      isSlaveAhead (parseD mine) (parseD (ctext.getD "")) = false ∧
      isSplitBrained (parseD mine) (parseD (ctext.getD "")) u = false := by
  have m := repairCascade_move host st cs i sl to hs hmem
  obtain ⟨mine, c, ctext, u, r⟩ := m.contained
  exact ⟨m.ne_self, m.candidate, m.ne_upstream, mine, c, some ctext, u, r.fresh, r.registered, r.text.symm, rfl, r.uuid,
    r.behind, r.notAhead, r.notSplit⟩

/-- the fresh read precedes the move -/
theorem fresh_read_before_move (host : String) (st : NodeState) (cs : ClusterState) (i : In) (sl : SlaveState) (to : String)
    (hs : st.slave = some sl) (hmem : Act.changeMaster to ∈ repairCascade host st cs i) :
    ∃ pre post, repairCascade host st cs i = pre ++ Act.changeMaster to :: post ∧ Act.readFresh ∈ pre := by
  obtain ⟨pre, post, heq, _⟩ := (repairCascade_move host st cs i sl to hs hmem).shape
  exact ⟨pre ++ [.readFresh, .readUuid], post, by simp [heq], by simp⟩

/-- no branch of the cascade repair points a server at itself -/
theorem never_points_at_itself (host : String) (st : NodeState) (cs : ClusterState) (i : In) :
    Act.changeMaster host ∉ repairCascade host st cs i := by
  cases hs : st.slave with
  | none =>
    rw [repairCascade_none host st cs i hs]
    split
    · simp
    · next hne =>
      have : host ≠ blindSource host i := by simpa using hne
      split <;> simp [this]
  | some sl =>
    exact fun hmem => (repairCascade_move host st cs i sl host hs hmem).ne_self rfl

/-- a cascade replica without a replica status whose configured source is the replica itself is pointed at
the recorded master instead (since the fix: 7075e36; before it this was the explicit panic of
`performChangeMaster`): no panic, and the first action is `changeMaster i.master` -/
theorem blind_branch_self_reference_falls_back (host : String) (st : NodeState) (cs : ClusterState) (i : In)
    (hs : st.slave = none) (hsf : i.streamFrom = host) (hm : i.master ≠ host) :
    (∀ site, Act.panic site ∉ repairCascade host st cs i) ∧
    (repairCascade host st cs i).head? = some (.changeMaster i.master) := by
  have hb : blindSource host i = i.master := by simp [blindSource, hsf]
  have hne : (host == i.master) = false := by
    simpa using fun e : host = i.master => hm e.symm
  rw [repairCascade_none host st cs i hs, hb, hne]
  cases i.changeBlindOk <;> simp

/-- on split brain the emergency marker is written and nothing is moved -/
theorem splitbrain_emerge_no_move (host : String) (st : NodeState) (cs : ClusterState) (i : In)
    (h : Act.writeEmerge ∈ repairCascade host st cs i) : ∀ to, Act.changeMaster to ∉ repairCascade host st cs i := by
  cases hs : st.slave with
  | none =>
    rw [repairCascade_none host st cs i hs] at h
    exfalso
    split at h
    · simp at h
    · split at h <;> simp at h
  | some sl =>
    -- a move consists of bookkeeping, `STOP SLAVE`, the two reads, the re-pointing and `START SLAVE`: no marker
    intro to hmem
    obtain ⟨pre, post, heq, hpre, hpost⟩ := (repairCascade_move host st cs i sl to hs hmem).shape
    rw [heq] at h
    simp only [List.mem_append, List.mem_cons, List.not_mem_nil, reduceCtorEq, or_false] at h
    rcases h with h | h
    · rcases hpre _ h with h | h <;> cases h
    · cases hpost _ h

/-- cascade replicas are never counted towards quorum: the HA counters ignore them -/
theorem cascade_not_counted (cs : ClusterState) (nodes : List String) :
    countHANodes cs = countHANodes (cs.filter fun e => !e.2.isCascade) ∧
    countRunningHASlaves cs = countRunningHASlaves (cs.filter fun e => !e.2.isCascade) ∧
    dubiousHAHosts cs = dubiousHAHosts (cs.filter fun e => !e.2.isCascade) ∧
    (∀ h, h ∈ nodes → (∃ s, cs.get? h = some s ∧ s.isCascade = true) →
      countAliveHASlavesWithin nodes cs = countAliveHASlavesWithin (nodes.filter (· != h)) cs) := by
  refine ⟨?_, ?_, ?_, ?_⟩
  · unfold countHANodes
    rw [filter_nonCascade_filter]
    rintro ⟨k, s⟩ h
    simpa using h
  · unfold countRunningHASlaves
    rw [filter_nonCascade_filter]
    rintro ⟨k, s⟩ h
    simp only [Bool.and_eq_true, Bool.not_eq_true'] at h
    exact h.1.2
  · unfold dubiousHAHosts
    rw [filter_nonCascade_filter]
    rintro ⟨k, s⟩ h
    simp only [Bool.and_eq_true, Bool.not_eq_true'] at h
    exact h.2
  · rintro h _ ⟨s, hg, hc⟩
    unfold countAliveHASlavesWithin
    rw [List.filter_filter]
    congr 2
    apply List.filter_congr
    intro x _
    by_cases hx : x = h
    · subst hx
      simp [hg, hc]
    · simp [hx]

-- non-vacuity: a 2-cycle c1 -> c2 -> c1 with c2 unhealthy falls back to the master
private def ok : NodeState := { pingOk := true, slave := some { lag := some 0, state := .running, masterHost := "m" } }
private def bad : NodeState := { pingOk := false }
private def cs0 : ClusterState := [("m", { pingOk := true, isMaster := true }), ("c1", ok), ("c2", bad)]
example : findBestStreamFrom 300 "c1" cs0 "m" [("c1", "c2"), ("c2", "c1")] = .host "m" := by decide
example : findBestStreamFrom 300 "c1" cs0 "m" [("c1", "c1")] = .host "m" := by decide
example : findBestStreamFrom 300 "c1" cs0 "m" [("c1", "ghost")] = .host "m" := by decide
-- the hypotheses of `bsf_master_if_unregistered` are needed: a replica already streaming (running) from the
-- configured but unregistered "ghost" keeps it; an unregistered replica is the remaining nil dereference
private def onGhost : NodeState := { pingOk := true, slave := some { lag := some 0, state := .running, masterHost := "ghost" } }
private def cs1 : ClusterState := [("m", { pingOk := true, isMaster := true }), ("c1", onGhost)]
example : findBestStreamFrom 300 "c1" cs1 "m" [("c1", "ghost")] = .host "ghost" := by decide
example : findBestStreamFrom 300 "c9" cs1 "m" [("c9", "ghost")] = .panic "clusterState[node.Host()]" := by decide
-- blind branch: a self-referencing source falls back to the recorded master; the panic branch that the model
-- keeps needs the host to be the recorded master itself (the hypothesis `hm` above is needed)
private def noStatus : NodeState := { pingOk := true }
private def selfRef (master : String) : In := { streamFrom := "c1", master := master, lostTimerZero := true, candidate := .host "m" }
example : repairCascade "c1" noStatus cs0 (selfRef "m") = [.changeMaster "m", .startSlave] := by decide
example : repairCascade "c1" noStatus cs0 (selfRef "c1") = [.panic "performChangeMaster: host == master"] := by decide

/-- whatever probe fails, a host that the registry knows as a cascade replica is observed as one — so that a
single failed or slow status query can never make a cascade replica look like an HA node (counted towards
quorum, listed as active, re-pointed to the master) -/
theorem cascade_flag_survives_probe_failures (t : Observe.Truth) (c : Bool) (f : Option Observe.Probe) (d p : Bool) :
    (Observe.getNodeState t c f d p).isCascade = c := by
  -- every branch of `getNodeState` is `{ isCascade := c }` under updates of other fields; `t.repl` is split first
  -- so that the `match` inside `s5` reduces
  obtain ⟨_, _, _, _ | r, _⟩ := t
  all_goals fun_cases Observe.getNodeState
  all_goals rfl

/-- … and a server is observed as master only if its replica status was read and had no row -/
theorem master_role_only_from_an_answered_status (t : Observe.Truth) (c : Bool) (f : Option Observe.Probe) (d p : Bool)
    (h : (Observe.getNodeState t c f d p).isMaster = true) :
    t.repl = none ∧ Observe.answered f .replicaStatus = true := by
  -- `isMaster := true` occurs once: in the `none` arm of `s5`, built only after `replicaStatus` was answered
  -- (the last three branches of the definition); everywhere else the field keeps its default `false`
  revert h
  obtain ⟨_, _, _, _ | r, _⟩ := t
  all_goals fun_cases Observe.getNodeState
  all_goals intro h
  case none.case6 | none.case7 | none.case8 =>
    exact ⟨rfl, by simpa using ‹¬(!Observe.answered f .replicaStatus) = true›⟩
  all_goals cases h

end C16
