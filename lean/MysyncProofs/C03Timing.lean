/-
C03 — the timing half of assumption E5, from the coordination client's own constants.
Property theorems of C03, no lemma file.  `Gen.ZkTiming.setTimeouts` is REGENERATED on every run from (*zk.Conn).setTimeouts of the
go-zookeeper version /repo's go.mod requires (receive time-out = 2/3 of the session time-out, ping interval = half of
that).

E5 (MysyncProofs/C03.lean) says: "the server ends a session only after its client noticed the loss …".  What the client
does: `recvLoop` arms a read deadline of `recvTimeout` each time it starts waiting for the next packet; when it passes,
the connection is closed and `StateDisconnected` is delivered (zkDCS then stops answering from the lock cache).  What the
server does: it expires a session `T` after it last heard from the client.  The lemma below turns E5's first half into an
arithmetic condition on the environment: equal clock rates, no process pause, and a bound `δ` on the time between the
server receiving a request and the client receiving the reply of at most `T − recvTimeout` (a third of the session
time-out).  Whether a deployment meets that is runtime behaviour (DESIGN.md §6, C03 partial).
-/
import MysyncModel.Generated.ZkTiming

namespace C03
open Gen.ZkTiming

/-- all times in nanoseconds on a common clock.  `r`: the client received its last packet; `s`: the server last heard from
the client; `e`: the server expires the session; `n`: the client's read deadline passes and it reports the loss. -/
theorem client_notices_before_expiry (Tms r s e n δ : Int)
    (hs : r - δ ≤ s)                                      -- the last reply reached the client at most δ after its request reached the server
    (he : s + Tms * 1000000 ≤ e)                          -- expiry no earlier than T after the server last heard from the client
    (hn : n = r + (setTimeouts Tms).recvTimeout)          -- the read deadline armed when the client started waiting
    (hδ : δ ≤ Tms * 1000000 - (setTimeouts Tms).recvTimeout) :
    n ≤ e := by
  omega

/-- the slack the environment has is at least a third of the session time-out … -/
theorem slack_at_least_a_third (Tms : Int) (hT : 0 ≤ Tms) :
    Int.tdiv (Tms * 1000000) 3 ≤ Tms * 1000000 - (setTimeouts Tms).recvTimeout := by
  unfold setTimeouts
  simp only []
  rw [Int.tdiv_eq_ediv_of_nonneg (by omega), Int.tdiv_eq_ediv_of_nonneg (by omega)]
  omega

/-- … and the client pings at least twice per receive window, so an idle but healthy connection is never given up: a
ping is sent every `pingInterval`, and a reply that takes less than `recvTimeout − pingInterval` arrives in time -/
theorem two_pings_per_receive_window (Tms : Int) (hT : 0 ≤ Tms) :
    2 * (setTimeouts Tms).pingInterval ≤ (setTimeouts Tms).recvTimeout ∧
    0 ≤ (setTimeouts Tms).pingInterval ∧ (setTimeouts Tms).recvTimeout ≤ Tms * 1000000 := by
  unfold setTimeouts
  simp only []
  have h1 : Int.tdiv (Tms * 1000000 * 2) 3 = Tms * 1000000 * 2 / 3 := Int.tdiv_eq_ediv_of_nonneg (by omega)
  rw [h1, Int.tdiv_eq_ediv_of_nonneg (by omega)]
  omega

-- the project's default session time-out (3 s … the constants for 3000 ms)
example : (setTimeouts 3000).recvTimeout = 2000000000 ∧ (setTimeouts 3000).pingInterval = 1000000000 := by decide

-- the condition is tight: with a reply delay of T − recvTimeout + 1 ns the server can expire first
example : ∃ r s e n δ : Int, r - δ ≤ s ∧ s + 3000 * 1000000 ≤ e ∧ n = r + (setTimeouts 3000).recvTimeout ∧
    δ = 3000 * 1000000 - (setTimeouts 3000).recvTimeout + 1 ∧ e < n :=
  ⟨1000000001, 0, 3000000000, 3000000001, 1000000001, by decide, by decide, by decide, by decide, by decide⟩

end C03
