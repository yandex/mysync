/-
C08 — Lost coordination service: fence the node unless provably safe.
Property theorems of C08; the decision list of `stateLost` and the facts about the fencing sequence are in
MysyncProofs/Lemmas/LostLemmas.lean.
Model: MysyncModel/App/Lost.lean (`stateLost`, `checkHAReplicasRunning`).
The action alphabet of the model (`Lost.Act`) contains only local read-only / offline / semi-sync-off
requests and two reads: "never promotes, re-points or un-fences" is closed by construction in the
model and enforced on the real code by the replay monitors (any other statement, any remote
statement, any coordination write is a violation).
-/
import MysyncModel.App.Lost
import MysyncProofs.Lemmas.LostLemmas

namespace C08
open Lost LostLemmas

/-- the node is a master with a live group: as many good replicas as it waits for (semi-sync), all
of them without semi-sync -/
def LiveGroup (cfg : Cfg) (i : In) : Prop :=
  i.localIsMaster = true ∧
  ((cfg.semiSync = true ∧ ∃ w, i.localWaitCount = some w ∧ available i.probes ≥ w) ∨
   (cfg.semiSync = false ∧ available i.probes ≥ (i.haCount : Int) - 1))

/-- nothing is to be changed: single-node cluster, non-HA host, fencing disabled, or live group -/
def Exempt (cfg : Cfg) (i : In) : Prop :=
  i.haCount = 1 ∨ i.localIsHA = false ∨ cfg.disableSetReadonlyOnLost = true ∨ LiveGroup cfg i

private theorem liveGroup_iff (cfg : Cfg) (i : In) :
    LiveGroup cfg i ↔ (i.localIsMaster && (replicasRunning cfg i).1) = true := by
  rw [Bool.and_eq_true, running_fst_iff]; rfl

/-- the three guards of `stateLost` after the connection test, taken together, are `Exempt` -/
private theorem exempt_iff (cfg : Cfg) (i : In) :
    Exempt cfg i ↔ (i.haCount == 1 || !i.localIsHA) = true ∨ cfg.disableSetReadonlyOnLost = true ∨
      (i.localIsMaster && (replicasRunning cfg i).1) = true := by
  unfold Exempt; rw [liveGroup_iff]; simp [or_assoc]

private theorem stateLost_of_not_exempt (cfg : Cfg) (i : In) (hc : i.connected = false) (hne : ¬ Exempt cfg i) :
    stateLost cfg i =
      if postpone cfg i then { acts := [], next := .lost, timer := timer' i } else fence i (timer' i) := by
  simp only [exempt_iff, not_or] at hne
  rw [stateLost_eq, if_neg (by simp [hc]), if_neg hne.1, if_neg hne.2.1, if_neg hne.2.2]

theorem reconnected_goes_candidate (cfg : Cfg) (i : In) (h : i.connected = true) :
    stateLost cfg i = { acts := [], next := .candidate, timer := none } := by
  rw [stateLost_eq, if_pos h]

/-- it changes nothing when exempt (and stays in the lost state) -/
theorem exempt_changes_nothing (cfg : Cfg) (i : In) (hc : i.connected = false) (he : Exempt cfg i) :
    (stateLost cfg i).acts = [] ∧ (stateLost cfg i).next = .lost := by
  rw [stateLost_eq, if_neg (by simp [hc])]
  -- the first of the three guards that holds returns no action and stays lost
  by_cases h1 : (i.haCount == 1 || !i.localIsHA) = true
  · rw [if_pos h1]; exact ⟨rfl, rfl⟩
  by_cases h2 : cfg.disableSetReadonlyOnLost = true
  · rw [if_neg h1, if_pos h2]; exact ⟨rfl, rfl⟩
  rw [if_neg h1, if_neg h2, if_pos ((((exempt_iff cfg i).mp he).resolve_left h1).resolve_left h2)]
  exact ⟨rfl, rfl⟩

/-- a postponement (not exempt, yet nothing done) happens only while some replica is UNREACHABLE
(timing out) — never for replicas that merely refuse or answer badly — and only within the
inactivation delay counted from the first such iteration -/
theorem postpone_only_unreachable_and_bounded (cfg : Cfg) (i : In) (hc : i.connected = false)
    (hne : ¬ Exempt cfg i) (hnone : (stateLost cfg i).acts = []) :
    unreachable i.probes > 0 ∧
    ∃ t, (stateLost cfg i).timer = some t ∧ i.now - t ≤ cfg.inactivationDelay ∧
      (i.timer = some t ∨ (i.timer = none ∧ t = i.now)) := by
  rw [stateLost_of_not_exempt cfg i hc hne] at hnone ⊢
  cases hp : postpone cfg i <;> rw [hp] at hnone
  · exact absurd hnone (fence_acts_ne_nil i _)
  · exact postpone_true cfg i hp

/-- with no unreachable replica the node is fenced at once -/
theorem refusing_never_postpones (cfg : Cfg) (i : In) (hc : i.connected = false)
    (hne : ¬ Exempt cfg i) (hu : unreachable i.probes = 0) : (stateLost cfg i).acts ≠ [] := by
  rw [stateLost_of_not_exempt cfg i hc hne, postpone_false_of_no_unreachable cfg i hu]
  exact fence_acts_ne_nil i _

/-- once the delay has passed since the timer was started, the node is fenced -/
theorem fences_after_delay (cfg : Cfg) (i : In) (t : Int) (hc : i.connected = false)
    (hne : ¬ Exempt cfg i) (ht : i.timer = some t) (hd : i.now - t > cfg.inactivationDelay) :
    (stateLost cfg i).acts ≠ [] := by
  rw [stateLost_of_not_exempt cfg i hc hne, postpone_false_of_expired cfg i t ht hd]
  exact fence_acts_ne_nil i _

/-- fencing starts with the read-only request to the LOCAL node: forced on a master, plain on a replica -/
theorem fence_is_readonly_request (cfg : Cfg) (i : In) (hne : (stateLost cfg i).acts ≠ []) :
    (i.localIsMaster = true ∧ (stateLost cfg i).acts.head? = some .setReadOnlyForce) ∨
    (i.localIsMaster = false ∧ (stateLost cfg i).acts = [.setReadOnly, .readGtid]) := by
  obtain ⟨tm, h⟩ := fence_of_acts cfg i hne
  rw [h]
  exact fence_head i tm

set_option linter.unusedVariables false in
/-- if commits hang waiting for an acknowledgement (the read-only request timed out or hit the lock
wait timeout and a semi-sync wait is visible), client sessions are cut (offline mode), semi-sync is
disabled and the forced read-only is repeated -/
theorem stuck_commit_handling (cfg : Cfg) (i : In) (hc : i.connected = false) (hne : ¬ Exempt cfg i)
    (hnp : (stateLost cfg i).acts ≠ []) (hm : i.localIsMaster = true)
    (hro : i.firstRo = .deadline ∨ i.firstRo = .lockWait1205) (hack : i.ack = .waiting)
    (h1 : i.stopReplOfflineOk = true) (h2 : i.stopReplDisableOk = true) :
    ∃ tail, (stateLost cfg i).acts = [.setReadOnlyForce, .checkWaitingAck, .setOffline, .semiSyncDisable, .setReadOnlyForce] ++ tail := by
  obtain ⟨tm, h⟩ := fence_of_acts cfg i hnp
  rw [h]
  exact fence_stuck i tm hm hro hack h1 h2

/-- semi-sync is switched off and sessions are cut ONLY in that situation -/
theorem semisync_off_only_if_stuck (cfg : Cfg) (i : In) (h : Act.semiSyncDisable ∈ (stateLost cfg i).acts ∨ Act.setOffline ∈ (stateLost cfg i).acts) :
    i.localIsMaster = true ∧ (i.firstRo = .deadline ∨ i.firstRo = .lockWait1205) ∧ i.ack = .waiting := by
  have hne : (stateLost cfg i).acts ≠ [] := by
    intro h0; rw [h0] at h; simp at h
  obtain ⟨tm, ht⟩ := fence_of_acts cfg i hne
  rw [ht] at h
  exact fence_off_only_if_stuck i tm h

/-- the timer is cleared when the node is (again) provably safe or reconnected, so a later loss
starts a fresh postponement window -/
theorem timer_cleared_when_safe (cfg : Cfg) (i : In) (h : i.connected = true ∨ (i.connected = false ∧ i.haCount ≠ 1 ∧ i.localIsHA = true ∧ cfg.disableSetReadonlyOnLost = false ∧ LiveGroup cfg i)) :
    (stateLost cfg i).timer = none := by
  rcases h with h | ⟨hc, h1, h2, h3, hl⟩
  · rw [stateLost_eq, if_pos h]
  · rw [stateLost_eq, if_neg (by simp [hc]), if_neg (by simp [h1, h2]), if_neg (by simp [h3]),
      if_pos ((liveGroup_iff cfg i).mp hl)]

-- non-vacuity
private def cfg0 : Cfg := ⟨true, false, 30⟩
private def i0 : In := { connected := false, haCount := 3, localIsHA := true, localIsMaster := true,
                         probes := [.notGood, .timeout, .notGood], localWaitCount := some 1, timer := none, now := 100 }
example : (stateLost cfg0 i0).acts = [] ∧ (stateLost cfg0 i0).timer = some 100 := by decide +kernel
example : (stateLost cfg0 { i0 with timer := some 60, now := 100 }).acts = [.setReadOnlyForce] := by decide +kernel
example : (stateLost cfg0 { i0 with probes := [.notGood, .good, .notGood] }).acts = [] := by decide +kernel

end C08
