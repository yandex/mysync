/-
C20 — Daemon robustness: no crash, no leak, no data race on any input.
Property theorems of C20; each rests on the lemmas of the handler it is about: Lemmas/ManagerCore.lean (the steps of an
iteration), SwitchoverLemmas.lean (namespace `RobustLemmas`: the panic sites of the stage list), RecoveryLemmas.lean
(`checkRecovery` by cases); the membership classification is walked row by row here.

What the technique decides: every model function carries an explicit `panic` outcome at each nil / map /
interface dereference of the code it models (the models are tied to the code by the differential checks,
which compare the panic outcome too).  The theorems below are the EXACT conditions under which an iteration
can die: no panic on any input whose views are complete, and which ill-formed inputs still reach one.  Five
sites that were reachable from contents the property names (recorded master / stream_from not registered,
master reporting a replication source, stuck recorded master) were found by the checks on the pinned tree and
repaired by fix: commits (known_findings.json); the models follow the repaired code.

What it does not decide: goroutine / connection accounting and data races are runtime behaviour.  The cluster
simulation counts goroutines and open connections and recovers panics around every loop of every daemon
(monitors C20:panic:<site>, C20:goroutines-left-behind, C20:connections-accumulate); no executable model of the
logic exhibits a data race — that clause is NOT decided (DESIGN.md, not applicable in part).  Level: PARTIAL.
-/
import MysyncModel.App.Manager
import MysyncModel.App.Switchover
import MysyncModel.App.Recovery
import MysyncModel.App.ActiveNodes
import MysyncProofs.Lemmas.ManagerCore
import MysyncProofs.Lemmas.RecoveryLemmas
import MysyncProofs.Lemmas.SwitchoverLemmas
-- needed although no lemma of it is used: `fun_cases ActiveNodes.classify` (below and in ActiveNodesCalc) lets Lean
-- generate the same auxiliary declarations, which must not exist twice wherever C20 is imported together with C04 / C11
import MysyncProofs.Lemmas.ActiveNodesCalc

namespace C20
open NS

/-- the manager iteration dies only if the recorded master is in the coordination view but missing from the
manager's own view (the two views are built from the same host registry within one iteration: a host removed
in between), or if the switchover procedure died -/
theorem manager_panics_only_if (cfg : Manager.Cfg) (i : Manager.In) (site : String)
    (h : Manager.Step.panic site ∈ (Manager.stateManager cfg i).steps) :
    (∃ m, i.master = some m ∧ (i.dcs.get? m).isSome ∧ (i.cs.get? m).isNone) ∨ i.perform = .panicked := by
  rcases ManagerLemmas.mem_steps h with he | he | ⟨m, light, pre, hen, h | ⟨sw, _, _, h⟩⟩
  · cases he
  · cases he
  · exact Or.inl ⟨m, hen.master, ManagerLemmas.asTail_panic h⟩
  · exact Or.inr (ManagerLemmas.hsTail_panic h)

/-- … in particular never when the recorded master is not a registered host at all (the crash found on the pinned tree) -/
theorem manager_survives_unregistered_master (cfg : Manager.Cfg) (i : Manager.In) (m : String)
    (hm : i.master = some m) (hd : i.dcs.get? m = none) (hp : i.perform ≠ .panicked) (site : String) :
    Manager.Step.panic site ∉ (Manager.stateManager cfg i).steps := by
  intro h
  rcases manager_panics_only_if cfg i site h with ⟨m', hm', hs, _⟩ | h
  · rw [hm] at hm'
    cases hm'
    rw [hd] at hs
    cases hs
  · exact hp h

/-- the switchover procedure can die only after the second cluster view was taken: on a host it works on (published
list, requested target, a collected position's host) that has no entry in THAT view — a host removed from the
cluster while the procedure runs — or if no position at all was collected.  (Before fix fc0b66f also every host of the
published list and the recorded master that is missing from the FIRST view: a crash loop while the request is pending.) -/
theorem switchover_panics_only_if (cfg : Switchover.Cfg) (i : Switchover.In) (site : String)
    (h : Switchover.Step.panic site ∈ Switchover.performSwitchover cfg i) :
    (∃ x, (x ∈ Switchover.workList i ∨ x = i.sw.to ∨ ∃ ps p, i.positions = some ps ∧ p ∈ ps ∧ x = p.host) ∧
      Switchover.pingOk i.cs2 x = none) ∨
    i.positions = some [] := by
  rcases (RobustLemmas.switchover_panic_sites cfg i site h).2 with ⟨_, hp⟩ | ⟨_, ps, hps, hnm, hn⟩ | ⟨_, x, hx, hn⟩
  · exact Or.inr hp
  · exact Or.inl ⟨_, Or.inr (hnm.imp_right fun hm => ⟨ps, _, hps, hm, rfl⟩), hn⟩
  · exact Or.inl ⟨x, Or.inl hx, hn⟩

/-- … in particular a recorded master or a listed host that is not registered when the procedure starts makes it FAIL,
not die, and nothing is touched -/
theorem switchover_unregistered_host_fails_cleanly (cfg : Switchover.Cfg) (i : Switchover.In) (x : String)
    (hx : x ∈ Switchover.workList i ∨ x = i.oldMaster) (hn : Switchover.pingOk i.cs x = none) (site : String) :
    Switchover.Step.panic site ∉ Switchover.performSwitchover cfg i := by
  intro h
  exact (RobustLemmas.switchover_panic_sites cfg i site h).1 x hx hn

/-- the recovery check never dies (two sites before the fixes) -/
theorem recovery_never_panics (i : Recovery.In) (site : String) : Recovery.Act.panic site ∉ Recovery.checkRecovery i := by
  intro h
  rcases RecoveryLemmas.checkRecovery_cases i with h0 | ⟨tail, he, ht⟩
  · rw [h0] at h; cases h
  rw [he] at h
  rcases List.mem_append.mp h with h | h
  · rcases RecoveryLemmas.timerActs_mem i _ h with h | h <;> cases h
  rcases ht with rfl | rfl | rfl | ⟨rfl, _⟩ <;> simp at h

/-- membership classification dies only on a host missing from the coordination view, or on a replica whose
executed set does not parse -/
theorem classify_panics_only_if (delay : Int) (i : ActiveNodes.CalcIn) (host : String) (node : NodeState) (site : String)
    (h : (ActiveNodes.classify delay i host node).1 = .panic site) :
    (node.pingOk = false ∧ i.dcs.get? host = none) ∨
    (∃ sl, node.slave = some sl ∧ Gtid.parse sl.executed = none) := by
  revert h
  fun_cases ActiveNodes.classify delay i host node
  -- the two rows that die: an unreachable host without a health record (`clusterStateDcs[host]`), and a reachable
  -- replica whose executed set does not parse (`ParseGtidSet`)
  case case4 hp hd => exact fun _ => Or.inl ⟨by simpa using hp, hd⟩
  case case11 sl hsl hn => exact fun _ => Or.inr ⟨sl, hsl, hn⟩
  -- dubious, failing: the result is still an `if` between "kept" and "not a member"
  case case5 | case6 => intro h; split at h <;> cases h
  all_goals exact fun h => by cases h

end C20
