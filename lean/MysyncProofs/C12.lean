/-
C12 — Quorum arithmetic: any failover quorum meets any acknowledging set.

PROPERTY THEOREMS ONLY.  The definitions are *regenerated* from
/repo/internal/mysql/switch_helper.go by /verif/gen on every run
(MysyncModel/Generated/SwitchHelper.lean); nothing here is hand-modelled.
The proofs do not unfold the generated definitions: they rewrite with their specification in normal form
(MysyncProofs/Lemmas/QuorumSpec.lean, proved there by a script that does not depend on the shape of the
generated code), so a behaviour-preserving rewrite of the Go code does not touch this file.
-/
import MysyncModel.Generated.SwitchHelper
import MysyncProofs.Lemmas.QuorumSpec
import Mathlib.Data.Finset.Card

namespace C12
open Gen.SwitchHelper

/-- number of acknowledgements demanded from the master for list `l` -/
abbrev req (sh : SwitchHelper) (l : List String) : Int := GetRequiredWaitSlaveCount sh l
/-- failover quorum for list `l` -/
abbrev quorum (sh : SwitchHelper) (l : List String) : Int := GetFailoverQuorum sh l
/-- configured count `w` -/
abbrev w (sh : SwitchHelper) : Int := sh.rplSemiSyncMasterWaitForSlaveCount
/-- replicas in a list of size n (the master is one member) -/
abbrev replicas (l : List String) : Int := max ((l.length : Int) - 1) 0

/-- the demanded count never exceeds the number of replicas in the list -/
theorem req_le_replicas (sh : SwitchHelper) (l : List String) (hw : 0 ≤ w sh) :
    req sh l ≤ replicas l := by
  simp only [req, replicas, QuorumSpec.req_spec, QuorumSpec.tdiv2, w] at *
  omega

theorem req_nonneg (sh : SwitchHelper) (l : List String) (hw : 0 ≤ w sh) : 0 ≤ req sh l := by
  simp only [req, QuorumSpec.req_spec, QuorumSpec.tdiv2, w] at *
  omega

/-- … and is zero only when the list has no replica or the configured count is zero -/
theorem req_zero_iff (sh : SwitchHelper) (l : List String) (hw : 0 ≤ w sh) :
    req sh l = 0 ↔ (l.length ≤ 1 ∨ w sh = 0) := by
  simp only [req, QuorumSpec.req_spec, QuorumSpec.tdiv2, w] at *
  omega

/-- the failover quorum is at least one -/
theorem quorum_pos (sh : SwitchHelper) (l : List String) : 1 ≤ quorum sh l := by
  simp only [quorum, QuorumSpec.quorum_spec]
  omega

/-- quorum + demanded count exceeds the number of replicas in the list -/
theorem quorum_add_req_gt (sh : SwitchHelper) (l : List String) (hw : 0 ≤ w sh) :
    replicas l < quorum sh l + req sh l := by
  simp only [quorum, req, replicas, QuorumSpec.quorum_spec, QuorumSpec.req_spec, QuorumSpec.tdiv2, w] at *
  omega

/-- the quorum never exceeds the list size (so a fully alive list can always fail over) -/
theorem quorum_le_size (sh : SwitchHelper) (l : List String) (hw : 0 ≤ w sh) (hn : 1 ≤ l.length) :
    quorum sh l ≤ l.length := by
  simp only [quorum, QuorumSpec.quorum_spec, QuorumSpec.req_spec, QuorumSpec.tdiv2, w] at *
  omega

/-- semi-sync: the check fails exactly when fewer than `quorum` nodes are permissible -/
theorem check_semisync_iff (sh : SwitchHelper) (l : List String) (p : Int) (hs : sh.SemiSync = true) :
    (CheckFailoverQuorum sh l p).isSome = true ↔ p < quorum sh l := by
  rw [QuorumSpec.check_isSome, if_pos hs]

/-- without semi-sync a failover needs at least one alive active replica -/
theorem check_async_iff (sh : SwitchHelper) (l : List String) (p : Int) (hs : sh.SemiSync = false) :
    (CheckFailoverQuorum sh l p).isSome = true ↔ p = 0 := by
  rw [QuorumSpec.check_isSome, if_neg (by simp [hs])]

/-- Set-level statement.  `R` = replicas of the published list `l` (so `|R| = |l| − 1`), `m ∉ R` the
old master, `A ⊆ R` any set that could have acknowledged a commit (`req ≤ |A|`, `1 ≤ req`), `F ⊆ R ∪ {m}`
any frozen set that passes the quorum check.  Then `F` contains the old master or meets `A`. -/
theorem failover_meets_ackers {α : Type} [DecidableEq α]
    (sh : SwitchHelper) (l : List String) (R A F : Finset α) (m : α) (hw : 0 ≤ w sh)
    (hR : (R.card : Int) = replicas l) (hA : A ⊆ R) (hF : F ⊆ insert m R)
    (hreq : req sh l ≤ A.card) (hq : quorum sh l ≤ F.card) :
    m ∈ F ∨ (F ∩ A).Nonempty := by
  by_cases hm : m ∈ F
  · exact Or.inl hm
  · right
    apply Finset.inter_nonempty_of_card_lt_card_add_card ((Finset.subset_insert_iff_of_notMem hm).mp hF) hA
    have := quorum_add_req_gt sh l hw
    omega

/-- the check accepting `p` permissible nodes means exactly that a frozen set of that size is a quorum -/
theorem check_ok_gives_quorum (sh : SwitchHelper) (l : List String) (p : Int) (hs : sh.SemiSync = true)
    (h : CheckFailoverQuorum sh l p = none) : quorum sh l ≤ p :=
  (QuorumSpec.check_spec_semi sh l p hs).mp h

-- non-vacuity: a three-node list with w = 1 demands one ack, quorum two; hypotheses are satisfiable
example : req ⟨0, 1, true⟩ ["a", "b", "c"] = 1 ∧ quorum ⟨0, 1, true⟩ ["a", "b", "c"] = 2 := by decide
example : CheckFailoverQuorum ⟨0, 1, true⟩ ["a", "b", "c"] 1 ≠ none ∧ CheckFailoverQuorum ⟨0, 1, true⟩ ["a", "b", "c"] 2 = none := by decide
example : CheckFailoverQuorum ⟨0, 1, false⟩ ["a", "b", "c"] 0 ≠ none ∧ CheckFailoverQuorum ⟨0, 1, false⟩ ["a", "b", "c"] 1 = none := by decide

end C12
