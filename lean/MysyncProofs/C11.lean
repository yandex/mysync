/-
C11 — Recovery protocol keeps diverged ex-masters out until proven clean.
Property theorems of C11; lemmas in MysyncProofs/Lemmas: RecoveryLemmas.lean (`checkRecovery` by cases),
SwitchoverStages.lean and SwitchoverLemmas.lean (the switchover procedure as a list of stages), ActiveNodesCalc.lean (who
is a member of a computed list).
Models: MysyncModel/App/Recovery.lean (`checkRecovery`, `SetRecovery`, stale-master repair),
MysyncModel/App/Switchover.lean (marking before promotion), MysyncModel/App/ActiveNodes.lean (exclusion
from the list).  The clearing daemon is "that host's own mysync" by construction: `checkRecovery`
reads and clears only the mark of its own configured hostname (the model has no host parameter).
-/
import MysyncModel.App.Recovery
import MysyncModel.App.Switchover
import MysyncModel.App.ActiveNodes
import MysyncProofs.Lemmas.RecoveryLemmas
import MysyncProofs.Lemmas.ActiveNodesCalc
import MysyncProofs.Lemmas.SwitchoverLemmas
import MysyncProofs.Lemmas.GtidLemmas

namespace C11
open NS Gtid

abbrev GSubset (s m : GtidSet) : Prop := GtidLemmas.GSubset s m

/-- the old master could not be confirmed as a clean replica -/
def Unconfirmed (i : Switchover.In) (mostRecent : GtidSet) : Prop :=
  i.oldStatus = .err ∨ i.oldStatus = .notReplica ∨
  ∃ st ex, i.oldStatus = .replica st ex ∧ (st = .error ∨ isSlaveAhead (parseD ex) mostRecent = true)

/-- marking at switchover/failover: whenever the procedure gets as far as resetting the new master's
replication and the old master was not confirmed clean against the most recent position, the old
master has been marked for recovery BEFORE (and the list without it was published first) -/
theorem marked_when_unconfirmed (cfg : Switchover.Cfg) (i : Switchover.In) (ps : List Select.Pos) (mr : Select.Pos)
    (pre post : List Switchover.Step) (h : String) (ok : Bool)
    (hpos : i.positions = some ps) (hmr : Select.findMostRecent ps = .node mr)
    (hsplit : Switchover.performSwitchover cfg i = pre ++ Switchover.Step.resetSlaveAll h ok :: post)
    (hu : Unconfirmed i mr.gtid) :
    Switchover.Step.setRecovery i.oldMaster true ∈ pre := by
  -- the reset belongs to the final phase, so everything `pHead` emits on success precedes it: the mark is among it
  obtain ⟨_, f, hpre, _⟩ := SwitchoverLemmas.fin_split (x := .resetSlaveAll h ok) rfl hsplit
  have hnr : SwitchoverLemmas.needRecovery i (SwitchoverLemmas.mrOf i) = true := by
    have : SwitchoverLemmas.mrOf i = mr := by simp [SwitchoverLemmas.mrOf, SwitchoverLemmas.psOf, hpos, hmr]
    rw [this]
    exact (SwitchoverLemmas.needRecovery_iff i mr).mpr hu
  rw [hpre]
  simp [SwitchoverLemmas.pHead, hnr]

/-- a node found claiming to be master beside the recorded one is made read-only, taken offline, its
semi-sync switched off, re-pointed to the recorded master and marked — in that order, in the same pass -/
theorem stale_master_marked (st : NodeState) (master : String) (h : st.isMaster = true) :
    ∃ pre, Recovery.repairStaleMaster st master = pre ++ [.setOffline, .semiSyncDisable, .changeMaster master, .setRecovery] ∧
      (st.isReadOnly = false → pre = [.setReadOnly]) := by
  unfold Recovery.repairStaleMaster
  rw [h]
  refine ⟨_, rfl, fun hro => ?_⟩
  simp [hro]

theorem not_master_not_marked_here (st : NodeState) (master : String) (h : st.isMaster = false) :
    Recovery.StaleAct.setRecovery ∉ Recovery.repairStaleMaster st master := by
  unfold Recovery.repairStaleMaster
  rw [h]
  cases st.isReadOnly <;> simp

/-- `SetRecovery` removes the host from the published list FIRST and creates the mark only after that
write succeeded -/
theorem set_recovery_list_first (active : List String) (host : String) (setOk markOk : Bool) :
    let r := Recovery.setRecovery (some active) host setOk markOk
    (∀ l, Recovery.Write.setActiveNodes l ∈ r.1 → host ∉ l ∧ ∀ x, x ∈ l ↔ (x ∈ active ∧ x ≠ host)) ∧
    (Recovery.Write.createRecoveryMark host ∈ r.1 → setOk = true ∧
      r.1 = [.setActiveNodes (active.filter (· != host)), .createRecoveryMark host]) := by
  intro r
  have hr : r.1 = _ := RecoveryLemmas.setRecovery_writes active host setOk markOk
  constructor
  · intro l hl
    have : l = active.filter (· != host) := by
      rw [hr] at hl
      cases setOk <;> simpa using hl
    subst this
    exact ⟨by simp, fun x => by simp⟩
  · intro hmk
    rw [hr] at hmk ⊢
    cases setOk
    · simp at hmk
    · exact ⟨rfl, rfl⟩

/-- while marked a host is never a member of a list computed by the manager — unless it is itself the
recorded master -/
theorem marked_not_listed (delay : Int) (i : ActiveNodes.CalcIn) (host : String) (node : NodeState) (l : List String)
    (hr : i.recovery = some l) (hm : host ∈ l) (hne : host ≠ i.master) :
    (ActiveNodes.classify delay i host node).1.isMember = false := by
  rw [Bool.eq_false_iff, Ne, ActiveNodesLemmas.isMember_classify delay i host node hne]
  exact fun h => h.2.1 l hr hm

/-- … and is never promoted by a list mysync wrote: the promoted host is the requested target, which
must be in the published list, or one of the frozen hosts, which are members of the published list -/
theorem promoted_is_listed (cfg : Switchover.Cfg) (i : Switchover.In) (h : String) (ok : Bool)
    (hs : Switchover.Step.setWritable h ok ∈ Switchover.performSwitchover cfg i)
    (hpos : ∀ ps, i.positions = some ps → ∀ p ∈ ps, p.host ∈ Switchover.frozen i) :
    h ∈ i.active := by
  obtain ⟨hr, _, rfl, _⟩ := SwitchoverLemmas.writable_reach hs
  obtain ⟨ps, _, hps, hpsOf, _⟩ := hr.guards.positions
  rcases SwitchoverLemmas.nmOf_cases cfg i hr.guards.node hr.guards.pick hpsOf with ⟨h1, h2⟩ | ⟨_, h2, _⟩
  · rw [h2]; exact hr.guards.target.resolve_left h1
  · exact SwitchoverLemmas.workList_subset i _ (List.mem_filter.mp (hpos ps hps _ h2)).1

/-- the mark is cleared only when it exists, no resetup is pending, the node is a read-only replica
whose replication is not in error and whose transactions are contained in the master's -/
theorem clear_only_if_clean (i : Recovery.In) (ok : Bool) (h : Recovery.Act.clearRecovery ok ∈ Recovery.checkRecovery i) :
    i.marked = true ∧ i.resetupFile = false ∧ i.readOnly = some true ∧
    ∃ st ex mg, i.status = .replica st ex ∧ st ≠ .error ∧ i.mgtid = some mg ∧
      isSlaveBehindOrEqual (parseD ex) (parseD mg) = true := by
  obtain ⟨_, st, ex, mg, _, c⟩ := RecoveryLemmas.clear_char i ok h
  obtain ⟨h1, h2⟩ := RecoveryLemmas.permanentlyLost_false c.notLost
  exact ⟨c.marked, c.noResetup, c.readOnly, st, ex, mg, c.status, h1, c.mgtid, h2⟩

/-- in set terms (for well-formed sets): cleared ⇒ the host's transactions ⊆ the master's -/
theorem clear_means_subset (i : Recovery.In) (ok : Bool) (h : Recovery.Act.clearRecovery ok ∈ Recovery.checkRecovery i)
    (hwf : ∀ t, WF (parseD t)) :
    ∃ st ex mg, i.status = .replica st ex ∧ i.mgtid = some mg ∧ GSubset (parseD ex) (parseD mg) := by
  obtain ⟨_, st, ex, mg, _, c⟩ := RecoveryLemmas.clear_char i ok h
  exact ⟨st, ex, mg, c.status, c.mgtid,
    (GtidLemmas.behind_iff _ _ (hwf mg) (hwf ex)).1 (RecoveryLemmas.permanentlyLost_false c.notLost).2⟩

/-- if it holds transactions the master lacks or its replication is in error, the resetup marker is
written instead and the mark stays -/
theorem resetup_if_ahead_or_error (i : Recovery.In) (st : ReplState) (ex mg master : String)
    (hm : i.marked = true) (hf : i.resetupFile = false) (hs : i.status = .replica st ex) (hma : i.master = some master)
    (hu : i.updateHostsOk = true) (hr : i.masterRegistered = true) (hg : i.mgtid = some mg) (hst : i.stuck ≠ .yes)
    (hbad : st = .error ∨ isSlaveAhead (parseD ex) (parseD mg) = true) :
    Recovery.Act.writeResetup ∈ Recovery.checkRecovery i ∧ ∀ ok, Recovery.Act.clearRecovery ok ∉ Recovery.checkRecovery i := by
  rw [RecoveryLemmas.resetup_char i st ex mg master hm hf hs hma hu hr hg hst (RecoveryLemmas.permanentlyLost_true hbad)]
  simp

/-- nothing at all while a resetup is pending, or when the host is not marked -/
theorem inert_when_unmarked_or_resetup (i : Recovery.In) (h : i.marked = false ∨ i.resetupFile = true) :
    Recovery.checkRecovery i = [] := by
  unfold Recovery.checkRecovery
  rcases h with h | h
  · simp [h]
  · cases i.marked <;> simp [h]

/-- the mark is never cleared together with a resetup request -/
theorem clear_excludes_resetup (i : Recovery.In) (ok : Bool) (h : Recovery.Act.clearRecovery ok ∈ Recovery.checkRecovery i) :
    Recovery.Act.writeResetup ∉ Recovery.checkRecovery i := by
  rw [(RecoveryLemmas.clear_char i ok h).1]
  intro hc
  rcases List.mem_append.mp hc with hc | hc
  · rcases RecoveryLemmas.timerActs_mem i _ hc with h | h <;> cases h
  · simp at hc

-- non-vacuity
private def good : Recovery.In := { marked := true, resetupFile := false, status := .replica .running "", master := some "m",
                                    mgtid := some "", now := 0, localHost := "x" }
-- (evaluated by the compiler, because the GTID text parser does not reduce in the kernel)
#guard Recovery.checkRecovery good = [.cleanStuckTimer, .clearRecovery true]
#guard Recovery.checkRecovery { good with status := .replica .error "" } = [.cleanStuckTimer, .writeResetup]
#guard Recovery.checkRecovery { good with status := .replica .running "00000000-0000-0000-0000-000000000001:1-5" } = [.cleanStuckTimer, .writeResetup]

end C11
