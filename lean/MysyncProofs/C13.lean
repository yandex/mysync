/-
C13 — GTID relations and split-brain detection agree with set semantics.
Property theorems of C13; lemmas in MysyncProofs/Lemmas/IvLemmas.lean (interval lists), GtidLemmas.lean (sets),
NormalizeLemmas.lean (`Normalize`, `Update`) and SelectLemmas.lean (the most-recent scan).
-/
import MysyncModel.Gtid
import MysyncModel.Select
import MysyncProofs.Lemmas.GtidLemmas
import MysyncProofs.Lemmas.NormalizeLemmas
import MysyncProofs.Lemmas.SelectLemmas

namespace C13
open Gtid Select GtidLemmas

/-- `s ⊆ m` as sets of transactions -/
abbrev GSubset (s m : GtidSet) : Prop := GtidLemmas.GSubset s m

/-- interval level: `Contain` is set inclusion on normalised lists -/
theorem ivContain_iff_subset (s sub : IvList) (hs : Normal s) (hsub : Normal sub) :
    ivContain s sub = true ↔ ∀ x, IvList.Mem x sub → IvList.Mem x s :=
  GtidLemmas.ivContain_iff s sub hs hsub.nonempty

/-- `m.Contain(s)` holds exactly when `s ⊆ m` -/
theorem contain_iff_subset (m s : GtidSet) (hm : WF m) (hs : WF s) :
    contain m s = true ↔ GSubset s m :=
  GtidLemmas.contain_iff m s hm hs

/-- `Equal` implies equality of the sets of transactions -/
theorem equal_imp_same (m s : GtidSet) (hm : WF m) (hs : WF s) (h : equal m s = true) :
    GSubset s m ∧ GSubset m s :=
  (GtidLemmas.equal_iff m s hm hs).1 h

/-- 'behind or equal' holds exactly when the replica's set is a subset of the source's -/
theorem behind_iff_subset (slave master : GtidSet) (hm : WF master) (hs : WF slave) :
    isSlaveBehindOrEqual slave master = true ↔ GSubset slave master :=
  GtidLemmas.behind_iff slave master hm hs

/-- … and 'ahead' is its negation -/
theorem ahead_iff_not_subset (slave master : GtidSet) (hm : WF master) (hs : WF slave) :
    isSlaveAhead slave master = true ↔ ¬ GSubset slave master := by
  unfold isSlaveAhead
  rw [← behind_iff_subset slave master hm hs]
  cases isSlaveBehindOrEqual slave master <;> simp

/-- interval subtraction: the result is normalised and denotes the set difference -/
theorem ivMinus_spec (a b : IvList) (ha : Normal a) (hb : Normal b) :
    Normal (ivMinus a b) ∧ ∀ x, IvList.Mem x (ivMinus a b) ↔ (IvList.Mem x a ∧ ¬ IvList.Mem x b) :=
  GtidLemmas.ivMinus_spec a b ha hb

/-- set subtraction: well-formed result denoting the set difference -/
theorem gtidMinus_spec (a b : GtidSet) (ha : WF a) (hb : WF b) :
    WF (gtidMinus a b) ∧ ∀ k x, (gtidMinus a b).Mem k x ↔ (a.Mem k x ∧ ¬ b.Mem k x) :=
  GtidLemmas.gtidMinus_spec a b ha hb

/-- the textual difference names exactly the two set differences: the classification is decided by
which of the two differences is empty, and the two printed sets are those differences -/
theorem gtidDiff_classifies (replica source : GtidSet) (hr : WF replica) (hs : WF source) :
    let (c, dSrc, dRep) := gtidDiff replica source
    (∀ k x, dSrc.Mem k x ↔ (source.Mem k x ∧ ¬ replica.Mem k x)) ∧
    (∀ k x, dRep.Mem k x ↔ (replica.Mem k x ∧ ¬ source.Mem k x)) ∧
    (c = .equal ↔ (GSubset source replica ∧ GSubset replica source)) ∧
    (c = .sourceAhead ↔ (¬ GSubset source replica ∧ GSubset replica source)) ∧
    (c = .replicaAhead ↔ (GSubset source replica ∧ ¬ GSubset replica source)) ∧
    (c = .splitBrain ↔ (¬ GSubset source replica ∧ ¬ GSubset replica source)) := by
  show (∀ k x, (gtidMinus source replica).Mem k x ↔ _) ∧ (∀ k x, (gtidMinus replica source).Mem k x ↔ _) ∧ _
  refine ⟨(gtidMinus_spec source replica hs hr).2, (gtidMinus_spec replica source hr hs).2, ?_⟩
  have e1 : _ ↔ GSubset source replica := gtidMinus_isEmpty_iff source replica hs hr
  have e2 : _ ↔ GSubset replica source := gtidMinus_isEmpty_iff replica source hr hs
  rw [← e1, ← e2]
  cases (gtidMinus source replica).isEmpty <;> cases (gtidMinus replica source).isEmpty <;> simp

/-- a replica whose set is a subset of the master's is never reported split-brained -/
theorem splitbrain_sound (slave master : GtidSet) (u : String) (hm : WF master) (hs : WF slave)
    (h : GSubset slave master) : isSplitBrained slave master u = false := by
  rw [isSplitBrained, List.any_eq_false]
  intro e he
  -- `Contain`'s test succeeds on every entry of the replica, so the entry is found and contained
  have := (contain_entry hm hs he).2 ((gsubset_iff_entries hs.1).1 h e.1 e.2 he)
  split at this
  · cases this
  · rename_i ml hml
    simp only [hml, this, if_true, Bool.false_eq_true, not_false_eq_true]

/-- a replica holding a transaction that the master lacks and that did not originate on the master
is always reported split-brained -/
theorem splitbrain_complete (slave master : GtidSet) (u : String) (hm : WF master) (hs : WF slave)
    (h : ∃ k x, slave.Mem k x ∧ ¬ master.Mem k x ∧ k.sid ≠ u) : isSplitBrained slave master u = true := by
  obtain ⟨k, x, ⟨sl, hsl, hx⟩, hnm, hku⟩ := h
  rw [isSplitBrained, List.any_eq_true]
  refine ⟨(k, sl), mem_of_lookup hsl, ?_⟩
  simp only
  split
  · rfl
  · rename_i ml hml
    have hnc : ivContain ml sl ≠ true := fun hc => hnm ((mem_iff_of_lookup hml x).2
      ((ivContain_iff ml sl (wf_normal_of_lookup hm hml) (wf_normal_of_lookup hs hsl).nonempty).1 hc x hx))
    rw [if_neg hnc, if_neg hku]

/-- Choosing the most recent of several nodes returns a node whose set contains all the others', or
reports split brain exactly when no such node exists (and never panics on a non-empty list). -/
theorem mostRecent_is_max_or_splitbrain (ps : List Pos) (hne : ps ≠ []) (hwf : ∀ p ∈ ps, WF p.gtid) :
    match findMostRecent ps with
    | .panic => False
    | .node m => m ∈ ps ∧ ∀ p ∈ ps, GSubset p.gtid m.gtid
    | .splitBrain => ¬ ∃ m ∈ ps, ∀ p ∈ ps, GSubset p.gtid m.gtid :=
  SelectLemmas.mostRecent_spec ps hne hwf

/-- `IntervalSlice.Normalize` (sort, then merge touching or overlapping intervals) keeps exactly the
numbers it was given — for ANY input: unsorted, overlapping, duplicated or empty intervals -/
theorem normalize_same_numbers (l : IvList) (x : Int) : IvList.Mem x (normalize l) ↔ IvList.Mem x l :=
  GtidLemmas.mem_normalize x l

/-- `MysqlGTIDSet.Update` (how executed and retrieved sets are joined into one position) adds, key by
key, exactly the transactions of every entry of its argument and loses none of the receiver -/
theorem update_adds_exactly (s o : GtidSet) (k : Key) (x : Int) :
    (update s o).Mem k x ↔ (s.Mem k x ∨ ∃ l, (k, l) ∈ o ∧ IvList.Mem x l) :=
  GtidLemmas.mem_update s o k x

/-- ... hence it is set union whenever the argument has one entry per key (parser output) -/
theorem update_is_union (s o : GtidSet) (ho : (keys o).Nodup) (k : Key) (x : Int) :
    (update s o).Mem k x ↔ (s.Mem k x ∨ o.Mem k x) :=
  (mem_update s o k x).trans <| or_congr_right
    ⟨fun ⟨l, hm, hx⟩ => ⟨l, lookup_of_mem ho hm, hx⟩, fun ⟨l, hl, hx⟩ => ⟨l, mem_of_lookup hl, hx⟩⟩

/-- both operands are below the union (what C01 needs of executed ∪ retrieved) -/
theorem update_upper_bound (s o : GtidSet) (ho : (keys o).Nodup) :
    GSubset s (update s o) ∧ GSubset o (update s o) :=
  have _ := ho  -- not needed: an entry of `o` is below the union also when its key occurs twice
  GtidLemmas.update_upper_bound s o

/-- `Normalize` of non-empty intervals is the normal form the other theorems assume -/
theorem normalize_is_normal (l : IvList) (h : ∀ j ∈ l, j.start < j.stop) : Normal (normalize l) :=
  GtidLemmas.normal_normalize l h

/-- a joined position is well-formed again, so `Contain`/behind/ahead/split-brain keep their set
meaning on executed ∪ retrieved -/
theorem update_keeps_wf (s o : GtidSet) (hs : WF s) (ho : WF o) : WF (update s o) :=
  GtidLemmas.wf_update s o hs ho.2

/-- corollary: a node is behind-or-equal the join of two sets iff each of its transactions is in one
of them -/
theorem behind_union_iff (slave a b : GtidSet) (hs : WF slave) (ha : WF a) (hb : WF b) :
    isSlaveBehindOrEqual slave (update a b) = true ↔ ∀ k x, slave.Mem k x → (a.Mem k x ∨ b.Mem k x) := by
  rw [behind_iff_subset slave (update a b) (update_keeps_wf a b ha hb) hs]
  constructor
  · intro h k x hm; exact (update_is_union a b hb.1 k x).mp (h k x hm)
  · intro h k x hm; exact (update_is_union a b hb.1 k x).mpr (h k x hm)

/-- the join does not depend on the order of its operands, and joining a set with itself or with a
subset adds nothing (as sets of transactions) -/
theorem update_comm (a b : GtidSet) (ha : WF a) (hb : WF b) (k : Key) (x : Int) :
    (update a b).Mem k x ↔ (update b a).Mem k x := by
  rw [update_is_union a b hb.1, update_is_union b a ha.1]; exact Or.comm

theorem update_absorbs_subset (a b : GtidSet) (hb : WF b) (h : GSubset b a) (k : Key) (x : Int) :
    (update a b).Mem k x ↔ a.Mem k x := by
  rw [update_is_union a b hb.1]
  exact ⟨fun h' => h'.elim id (h k x), Or.inl⟩

-- non-vacuity: concrete well-formed sets, one a strict subset of the other, one diverged
private def u1 : Key := ⟨"00000000-0000-0000-0000-000000000001", ""⟩
private def u2 : Key := ⟨"00000000-0000-0000-0000-000000000002", ""⟩
example : isSlaveBehindOrEqual [(u1, [⟨1, 5⟩])] [(u1, [⟨1, 9⟩]), (u2, [⟨1, 3⟩, ⟨5, 6⟩])] = true := by decide
example : isSplitBrained [(u1, [⟨1, 5⟩]), (u2, [⟨1, 4⟩])] [(u1, [⟨1, 9⟩]), (u2, [⟨1, 3⟩])] u1.sid = true := by decide
example : ivMinus [⟨1, 5⟩, ⟨6, 10⟩] [⟨3, 8⟩] = [⟨1, 3⟩, ⟨8, 10⟩] := by decide
example : Normal [⟨1, 5⟩, ⟨6, 10⟩] ∧ Normal [⟨3, 8⟩] := by decide

example : normalize [⟨6, 10⟩, ⟨1, 5⟩, ⟨5, 6⟩, ⟨2, 3⟩] = [⟨1, 10⟩] := by decide
example : update [(u1, [⟨1, 5⟩])] [(u1, [⟨3, 9⟩]), (u2, [⟨1, 2⟩])] = [(u1, [⟨1, 9⟩]), (u2, [⟨1, 2⟩])] := by decide

end C13
