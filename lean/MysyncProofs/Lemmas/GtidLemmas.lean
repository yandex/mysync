/-
GTID sets as association lists: membership through `lookup` (`mem_iff_of_lookup`); on well-formed sets `Contain` is
inclusion, `Equal` is having the same transactions, `mysqlGTIDSetMinus` is set difference.
-/
import MysyncModel.Gtid
import MysyncProofs.Lemmas.ListFacts
import MysyncProofs.Lemmas.IvLemmas

namespace GtidLemmas
open Gtid

/-- `s ⊆ m` as sets of transactions -/
def GSubset (s m : GtidSet) : Prop := ∀ k x, s.Mem k x → m.Mem k x

theorem GSubset.refl (s : GtidSet) : GSubset s s := fun _ _ h => h
theorem GSubset.trans {a b c : GtidSet} (h1 : GSubset a b) (h2 : GSubset b c) : GSubset a c :=
  fun k x h => h2 k x (h1 k x h)

/-- the derived `==` on intervals is equality, hence so is `==` on interval lists (`Equal` compares with it) -/
instance : LawfulBEq Interval where
  eq_of_beq {a b} h := by
    cases a; cases b
    simpa [BEq.beq, instBEqInterval.beq] using h
  rfl {a} := by
    cases a
    simp [BEq.beq, instBEqInterval.beq]

theorem lookup_nil (k : Key) : lookup [] k = none := rfl

theorem lookup_cons (k' k : Key) (l : IvList) (r : GtidSet) :
    lookup ((k', l) :: r) k = if k' = k then some l else lookup r k := rfl

theorem mem_of_lookup {s : GtidSet} {k : Key} {l : IvList} (h : lookup s k = some l) : (k, l) ∈ s := by
  fun_induction lookup s k with
  | case1 => cases h
  | case2 => cases h; exact List.mem_cons_self
  | case3 _ _ _ _ ih => exact List.mem_cons_of_mem _ (ih h)

theorem key_of_mem {s : GtidSet} {k : Key} {l : IvList} (h : (k, l) ∈ s) : k ∈ keys s :=
  List.mem_map.mpr ⟨(k, l), h, rfl⟩

theorem key_of_lookup {s : GtidSet} {k : Key} {l : IvList} (h : lookup s k = some l) : k ∈ keys s :=
  key_of_mem (mem_of_lookup h)

theorem lookup_of_mem {s : GtidSet} (hn : (keys s).Nodup) {k : Key} {l : IvList} (h : (k, l) ∈ s) :
    lookup s k = some l := by
  fun_induction lookup s k with
  | case1 => cases h
  | case2 l' r =>
    rcases List.mem_cons.1 h with h | h
    · cases h; rfl
    · exact absurd (key_of_mem h) (List.nodup_cons.1 hn).1
  | case3 k' l' r hne ih =>
    rcases List.mem_cons.1 h with h | h
    · cases h; exact absurd rfl hne
    · exact ih (List.nodup_cons.1 hn).2 h

theorem lookup_isSome_of_key {s : GtidSet} {k : Key} (h : k ∈ keys s) : ∃ l, lookup s k = some l := by
  fun_induction lookup s k with
  | case1 => cases h
  | case2 l' => exact ⟨l', rfl⟩
  | case3 k' l' r hne ih =>
    rcases List.mem_cons.1 h with h | h
    · exact absurd h.symm hne
    · exact ih h

theorem mem_iff_of_lookup {s : GtidSet} {k : Key} {l : IvList} (h : lookup s k = some l) (x : Int) :
    s.Mem k x ↔ IvList.Mem x l :=
  ⟨fun ⟨_, hl, hx⟩ => Option.some.inj (h.symm.trans hl) ▸ hx, fun hx => ⟨l, h, hx⟩⟩

theorem not_mem_of_lookup_none {s : GtidSet} {k : Key} (h : lookup s k = none) (x : Int) : ¬ s.Mem k x :=
  fun ⟨_, hl, _⟩ => nomatch h.symm.trans hl

theorem not_mem_nil (k : Key) (x : Int) : ¬ GtidSet.Mem [] k x := not_mem_of_lookup_none rfl x

theorem wf_normal_of_lookup {s : GtidSet} (hs : WF s) {k : Key} {l : IvList} (h : lookup s k = some l) :
    Normal l := (hs.2 k l (mem_of_lookup h)).1

theorem wf_entry_mem {s : GtidSet} (hs : WF s) {k : Key} {l : IvList} (h : (k, l) ∈ s) :
    ∃ x, s.Mem k x := by
  obtain ⟨hN, hne⟩ := hs.2 k l h
  obtain ⟨x, hx⟩ := hN.exists_mem hne
  exact ⟨x, l, lookup_of_mem hs.1 h, hx⟩

theorem wf_eq_nil_iff {s : GtidSet} (hs : WF s) : s = [] ↔ ∀ k x, ¬ s.Mem k x := by
  refine ⟨fun h k x => h ▸ not_mem_nil k x, fun h => ?_⟩
  cases s with
  | nil => rfl
  | cons e r =>
    obtain ⟨x, hx⟩ := wf_entry_mem hs List.mem_cons_self
    exact absurd hx (h e.1 x)

theorem gsubset_iff_entries {s m : GtidSet} (hs : (keys s).Nodup) :
    GSubset s m ↔ ∀ k l, (k, l) ∈ s → ∀ x, IvList.Mem x l → m.Mem k x :=
  ⟨fun h k l he x hx => h k x ⟨l, lookup_of_mem hs he, hx⟩,
   fun h k x ⟨l, hl, hx⟩ => h k l (mem_of_lookup hl) x hx⟩

theorem keys_subset_of_gsubset {s m : GtidSet} (hs : WF s) (h : GSubset s m) : keys s ⊆ keys m := by
  intro k hk
  obtain ⟨l, hl⟩ := lookup_isSome_of_key hk
  obtain ⟨x, hx⟩ := wf_entry_mem hs (mem_of_lookup hl)
  obtain ⟨l', hl', _⟩ := h k x hx
  exact key_of_lookup hl'

/-- the test `Contain` makes for one entry `(k, ol)` of its argument -/
theorem contain_entry {m s : GtidSet} (hm : WF m) (hs : WF s) {k : Key} {ol : IvList} (he : (k, ol) ∈ s) :
    (match lookup m k with
      | none => false
      | some sl => ivContain sl ol) = true ↔ ∀ x, IvList.Mem x ol → m.Mem k x := by
  obtain ⟨hN, hne⟩ := hs.2 k ol he
  cases h : lookup m k with
  | none =>
    obtain ⟨x, hx⟩ := hN.exists_mem hne
    exact ⟨nofun, fun hall => absurd (hall x hx) (not_mem_of_lookup_none h x)⟩
  | some sl =>
    simp only [mem_iff_of_lookup h]
    exact ivContain_iff sl ol (wf_normal_of_lookup hm h) hN.nonempty

theorem contain_iff (m s : GtidSet) (hm : WF m) (hs : WF s) :
    contain m s = true ↔ GSubset s m := by
  rw [contain, List.all_eq_true, gsubset_iff_entries hs.1]
  exact ⟨fun h k l he => (contain_entry hm hs he).1 (h (k, l) he),
    fun h e he => (contain_entry hm hs he).2 (h e.1 e.2 he)⟩

theorem equal_unfold (m s : GtidSet) :
    equal m s = true ↔ (m.length = s.length ∧ ∀ k l, (k, l) ∈ m → lookup s k = some l) := by
  simp only [equal, Bool.and_eq_true, beq_iff_eq, List.all_eq_true, Prod.forall]
  refine and_congr_right fun _ => forall_congr' fun k => forall_congr' fun l => imp_congr_right fun _ => ?_
  cases lookup s k with
  | none => exact ⟨nofun, nofun⟩
  | some ol => exact beq_iff_eq.trans ⟨fun h => h ▸ rfl, fun h => (Option.some.inj h).symm⟩

theorem equal_entries (m s : GtidSet) (hm : WF m) (h : equal m s = true) :
    ∀ k l, lookup m k = some l ↔ lookup s k = some l := by
  obtain ⟨hlen, hent⟩ := (equal_unfold m s).mp h
  have hsub : keys m ⊆ keys s := by
    intro k hk
    obtain ⟨l, hl⟩ := lookup_isSome_of_key hk
    exact key_of_lookup (hent k l (mem_of_lookup hl))
  have hback : keys s ⊆ keys m :=
    List.subset_of_nodup_of_length_le hm.1 hsub (by simp [keys, hlen])
  intro k l
  constructor
  · intro hl; exact hent k l (mem_of_lookup hl)
  · intro hl
    obtain ⟨l', hl'⟩ := lookup_isSome_of_key (hback (key_of_lookup hl))
    have := hent k l' (mem_of_lookup hl')
    rw [hl] at this; cases this
    exact hl'

/-- by the uniqueness of the normal form of an interval list (`normal_unique`) -/
theorem equal_iff (m s : GtidSet) (hm : WF m) (hs : WF s) :
    equal m s = true ↔ (GSubset s m ∧ GSubset m s) := by
  constructor
  · intro h
    have he := equal_entries m s hm h
    exact ⟨fun k x ⟨l, hl, hx⟩ => ⟨l, (he k l).mpr hl, hx⟩, fun k x ⟨l, hl, hx⟩ => ⟨l, (he k l).mp hl, hx⟩⟩
  · rintro ⟨hsm, hms⟩
    apply (equal_unfold m s).mpr
    have k1 := keys_subset_of_gsubset hs hsm
    have k2 := keys_subset_of_gsubset hm hms
    have l1 := hs.1.length_le_of_subset k1
    have l2 := hm.1.length_le_of_subset k2
    refine ⟨by simp only [keys, List.length_map] at l1 l2; omega, fun k l hkl => ?_⟩
    have hl := lookup_of_mem hm.1 hkl
    obtain ⟨ol, hol⟩ := lookup_isSome_of_key (k2 (key_of_lookup hl))
    rw [hol]
    exact congrArg some <| normal_unique ol l (wf_normal_of_lookup hs hol) (wf_normal_of_lookup hm hl) fun x =>
      (mem_iff_of_lookup hol x).symm.trans (Iff.trans ⟨hsm k x, hms k x⟩ (mem_iff_of_lookup hl x))

theorem behind_iff (slave master : GtidSet) (hm : WF master) (hs : WF slave) :
    isSlaveBehindOrEqual slave master = true ↔ GSubset slave master := by
  rw [isSlaveBehindOrEqual, Bool.or_eq_true, contain_iff master slave hm hs, equal_iff master slave hm hs]
  exact ⟨fun h => h.elim id (·.1), Or.inl⟩

/-- the per-key difference computed by `mysqlGTIDSetMinus` -/
def diffAt (b : GtidSet) (k : Key) (al : IvList) : IvList :=
  match lookup b k with
  | none => al
  | some bl => ivMinus al bl

theorem gtidMinus_eq (a b : GtidSet) :
    gtidMinus a b = a.filterMap fun e =>
      if (diffAt b e.1 e.2).isEmpty then none else some (e.1, diffAt b e.1 e.2) := rfl

theorem diffAt_spec (a b : GtidSet) (ha : WF a) (hb : WF b) {k : Key} {al : IvList}
    (hal : lookup a k = some al) :
    Normal (diffAt b k al) ∧ ∀ x, IvList.Mem x (diffAt b k al) ↔ (a.Mem k x ∧ ¬ b.Mem k x) := by
  have hN := wf_normal_of_lookup ha hal
  unfold diffAt
  split
  · rename_i hnone
    exact ⟨hN, fun x => by rw [mem_iff_of_lookup hal, and_iff_left (not_mem_of_lookup_none hnone x)]⟩
  · rename_i bl hbl
    obtain ⟨h1, h2⟩ := ivMinus_spec al bl hN (wf_normal_of_lookup hb hbl)
    exact ⟨h1, fun x => by rw [h2, mem_iff_of_lookup hal, mem_iff_of_lookup hbl]⟩

theorem gtidMinus_keys_sublist (a b : GtidSet) : (keys (gtidMinus a b)).Sublist (keys a) := by
  rw [gtidMinus_eq]
  induction a with
  | nil => exact .refl _
  | cons e r ih =>
    rw [List.filterMap_cons]
    split
    · exact ih.cons _
    · next he =>
      split at he
      · cases he
      · cases he; exact ih.cons_cons _

theorem mem_gtidMinus (a b : GtidSet) (k : Key) (l : IvList) :
    (k, l) ∈ gtidMinus a b ↔ ∃ al, (k, al) ∈ a ∧ l = diffAt b k al ∧ l ≠ [] := by
  simp only [gtidMinus_eq, List.mem_filterMap, Prod.exists, List.isEmpty_iff]
  constructor
  · rintro ⟨k', al, he, hf⟩
    split at hf
    · cases hf
    · next hne => cases hf; exact ⟨al, he, rfl, hne⟩
  · rintro ⟨al, he, rfl, hne⟩
    exact ⟨k, al, he, if_neg hne⟩

theorem gtidMinus_spec (a b : GtidSet) (ha : WF a) (hb : WF b) :
    WF (gtidMinus a b) ∧ ∀ k x, (gtidMinus a b).Mem k x ↔ (a.Mem k x ∧ ¬ b.Mem k x) := by
  have hnd : (keys (gtidMinus a b)).Nodup := (gtidMinus_keys_sublist a b).nodup ha.1
  refine ⟨⟨hnd, ?_⟩, ?_⟩
  · intro k l hkl
    obtain ⟨al, he, rfl, hne⟩ := (mem_gtidMinus a b k l).mp hkl
    exact ⟨(diffAt_spec a b ha hb (lookup_of_mem ha.1 he)).1, hne⟩
  · intro k x
    constructor
    · rintro ⟨l, hl, hx⟩
      obtain ⟨al, he, rfl, _⟩ := (mem_gtidMinus a b k l).mp (mem_of_lookup hl)
      exact ((diffAt_spec a b ha hb (lookup_of_mem ha.1 he)).2 x).mp hx
    · rintro ⟨⟨al, hal, hxa⟩, hnb⟩
      have hx := ((diffAt_spec a b ha hb hal).2 x).mpr ⟨⟨al, hal, hxa⟩, hnb⟩
      refine ⟨diffAt b k al, lookup_of_mem hnd ?_, hx⟩
      apply (mem_gtidMinus a b k _).mpr
      refine ⟨al, mem_of_lookup hal, rfl, ?_⟩
      intro h; rw [h] at hx; exact (mem_nil x).mp hx

theorem gtidMinus_isEmpty_iff (a b : GtidSet) (ha : WF a) (hb : WF b) :
    (gtidMinus a b).isEmpty = true ↔ GSubset a b := by
  obtain ⟨hwf, hmem⟩ := gtidMinus_spec a b ha hb
  rw [List.isEmpty_iff, wf_eq_nil_iff hwf]
  simp only [hmem, not_and, Classical.not_not]
  rfl

end GtidLemmas
