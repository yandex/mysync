/-
Lemmas for C04, part 2: the semi-sync world, `updateSemiSync` cut into its segments, and what the calls of each
segment may do to the world (`Footprint`).
-/
import MysyncProofs.Lemmas.ActiveNodesCalc

namespace ActiveNodesLemmas
open NS Gtid ActiveNodes

def AllCalls (p : Call → Bool) (tr : List Ev) : Prop := ∀ e ∈ tr, p e.call = true

theorem AllCalls.nil {p : Call → Bool} : AllCalls p [] := List.forall_mem_nil _

theorem AllCalls.cons {p : Call → Bool} {e : Ev} {b : List Ev} (he : p e.call = true) (hb : AllCalls p b) :
    AllCalls p (e :: b) := List.forall_mem_cons.mpr ⟨he, hb⟩

theorem AllCalls.append {p : Call → Bool} {a b : List Ev} (ha : AllCalls p a) (hb : AllCalls p b) :
    AllCalls p (a ++ b) := List.forall_mem_append.mpr ⟨ha, hb⟩

theorem AllCalls.flatMap {p : Call → Bool} {α} (l : List α) (f : α → List Ev) (hf : ∀ a ∈ l, AllCalls p (f a)) :
    AllCalls p (l.flatMap f) := List.forall_mem_flatMap.mpr hf

theorem AllCalls.ite {p : Call → Bool} {c : Prop} [Decidable c] {a b : List Ev} (ha : AllCalls p a)
    (hb : AllCalls p b) : AllCalls p (if c then a else b) := by
  split <;> assumption

theorem AllCalls.mono {p q : Call → Bool} {tr : List Ev} (hpq : ∀ c, p c = true → q c = true) (h : AllCalls p tr) :
    AllCalls q tr := fun e he => hpq _ (h e he)

def isPublish : Call → Bool
  | .publish _ => true
  | _ => false

/-- a bound on what calls do: acknowledgements are switched on only on a host of `sets`, the master's
`rpl_semi_sync_master_*` settings are touched only if `master`, nothing is published -/
structure Footprint where
  sets : List String
  master : Bool

def Footprint.allows (f : Footprint) (m : String) : Call → Bool
  | .publish _ => false
  | .ssSetSlave h => f.sets.contains h
  | .ssDisable h | .ssSetMaster h | .ssWaitCount h _ => f.master || h != m
  | _ => true

theorem Footprint.notPublish {f : Footprint} {m : String} (c : Call) (h : f.allows m c = true) :
    (!isPublish c) = true := by
  cases c <;> first | rfl | cases h

theorem adjustMaster_calls (i : UpdIn) (ms : Option SemiSyncState) (wsc : Int) {f : Footprint} (hf : f.master = true) :
    AllCalls (f.allows i.master) (adjustMaster i ms wsc).1 := by
  have one : ∀ {c ok}, f.allows i.master c = true → AllCalls (f.allows i.master) [⟨c, ok⟩] :=
    fun h => AllCalls.cons h AllCalls.nil
  have hd : f.allows i.master (.ssDisable i.master) = true := by simp [Footprint.allows, hf]
  have hw : f.allows i.master (.ssWaitCount i.master wsc) = true := by simp [Footprint.allows, hf]
  have hs : f.allows i.master (.ssSetMaster i.master) = true := by simp [Footprint.allows, hf]
  -- rows: no snapshot; count 0 with the master side on (it is switched off) / off; a new count: raising it failed,
  -- the master side is switched on after it, it is on already
  fun_cases adjustMaster i ms wsc
  case case1 | case3 => exact AllCalls.nil
  case case2 => exact one hd
  case case4 | case6 => exact AllCalls.ite (one hw) AllCalls.nil
  case case5 => exact (AllCalls.ite (one hw) AllCalls.nil).append (one hs)

theorem enableLoop_calls (i : UpdIn) (hs : List String) (wsc : Int) (active : List String) {f : Footprint} {m : String}
    (hf : hs ⊆ f.sets) : AllCalls (f.allows m) (enableLoop i hs wsc active).1 := by
  have h2 : ∀ a, f.allows m (if i.ahead a then Call.restartReplica a else Call.restartIO a) = true := by
    intro a; split <;> rfl
  -- rows: no host left; `ssSetSlave` failed; the restart failed; all three calls were made
  fun_induction enableLoop i hs wsc active
  case case1 => exact AllCalls.nil
  all_goals obtain ⟨ha, hr⟩ := List.cons_subset.mp hf
  -- the last two hypotheses of a row: the name the model's `let` gives the rest of the loop, and what holds of it
  all_goals rename_i hx ih
  all_goals rw [hx] at ih
  case case2 => exact .cons (List.contains_iff_mem.mpr ha) (ih hr)
  case case3 => exact .cons (List.contains_iff_mem.mpr ha) (.cons (h2 _) (ih hr))
  case case4 => exact .cons (List.contains_iff_mem.mpr ha) (.cons (h2 _) (.cons rfl (ih hr)))

theorem run_nil (w : World) (m : String) : w.run m [] = w := rfl
theorem run_cons (w : World) (m : String) (e : Ev) (tr : List Ev) : w.run m (e :: tr) = (w.applyEv m e).run m tr := rfl
theorem run_append (w : World) (m : String) (a b : List Ev) : w.run m (a ++ b) = (w.run m a).run m b := by
  simp [World.run, List.foldl_append]

theorem applyEv_failed (w : World) (m : String) (c : Call) : w.applyEv m ⟨c, false⟩ = w := rfl
theorem applyEv_ok (w : World) (m : String) (c : Call) : w.applyEv m ⟨c, true⟩ = w.apply m c := rfl

theorem apply_ssDisable_self (w : World) (m : String) :
    w.apply m (.ssDisable m) = { w with masterEnabled := false, slaveEnabled := w.slaveEnabled.filter (· != m) } := by
  simp [World.apply]

theorem apply_ssSetMaster_self (w : World) (m : String) :
    w.apply m (.ssSetMaster m) = { w with masterEnabled := true, slaveEnabled := w.slaveEnabled.filter (· != m) } := by
  simp [World.apply]

theorem apply_ssWaitCount_self (w : World) (m : String) (n : Int) :
    w.apply m (.ssWaitCount m n) = { w with waitCount := n } := by
  simp [World.apply]

theorem run_invariant {I : World → Prop} {p : Call → Bool} {m : String} {tr : List Ev} {w : World}
    (hstep : ∀ w c, p c = true → I w → I (w.apply m c)) (htr : AllCalls p tr) (hw : I w) : I (w.run m tr) :=
  List.foldlRecOn tr _ hw fun w hw e he => by
    unfold World.applyEv
    split
    · exact hstep w e.call (htr e he) hw
    · exact hw

theorem run_frame {α : Type} (f : World → α) {p : Call → Bool} {m : String} {tr : List Ev} {w : World}
    (hstep : ∀ w c, p c = true → f (w.apply m c) = f w) (htr : AllCalls p tr) : f (w.run m tr) = f w :=
  run_invariant (I := fun w' => f w' = f w) (fun w' c hc hw' => (hstep w' c hc).trans hw') htr rfl

theorem published_run (w : World) (m : String) (tr : List Ev) (h : AllCalls (fun c => !isPublish c) tr) :
    (w.run m tr).published = w.published :=
  run_frame (·.published) (p := fun c => !isPublish c) (m := m) (fun w c hc => by
    fun_cases World.apply w m c
    case case8 => cases hc  -- `publish`
    all_goals rfl) h

theorem master_run {f : Footprint} (hf : f.master = false) (w : World) (m : String) (tr : List Ev)
    (h : AllCalls (f.allows m) tr) :
    ((w.run m tr).masterEnabled, (w.run m tr).waitCount) = (w.masterEnabled, w.waitCount) :=
  run_frame (fun w => (w.masterEnabled, w.waitCount)) (fun w c hc => by
    fun_cases World.apply w m c
    -- the three rows that touch the master's settings are addressed to it
    case case1 x hx | case4 x hx | case6 x _ hx =>
      exact absurd (beq_iff_eq.mp hx) (by simpa [Footprint.allows, hf] using hc)
    all_goals rfl) h

theorem mem_slaveEnabled_apply (w : World) (m : String) (c : Call) (h : String)
    (hh : h ∈ (w.apply m c).slaveEnabled) : h ∈ w.slaveEnabled ∨ c = .ssSetSlave h := by
  revert hh
  fun_cases World.apply w m c
  -- `ssDisable` (to the master, to a replica) and `ssSetMaster` filter the list; `ssSetSlave` may add its host
  case case1 | case2 | case4 => exact fun hh => .inl (List.mem_filter.mp hh).1
  case case3 x =>
    intro hh
    dsimp only at hh
    split at hh
    · exact .inl hh
    · exact (List.mem_cons.mp hh).symm.imp_right fun e => by rw [e]
  all_goals exact .inl

/-- Who acknowledges after a trace, whatever the order of its calls: a host the trace switched on, or one that
acknowledged before and that no successful call of the trace switched off. -/
theorem mem_slaveEnabled_run {w : World} {m : String} {tr : List Ev} {h : String}
    (hh : h ∈ (w.run m tr).slaveEnabled) :
    ⟨.ssSetSlave h, true⟩ ∈ tr ∨ (h ∈ w.slaveEnabled ∧ ⟨.ssDisable h, true⟩ ∉ tr) := by
  induction tr generalizing w with
  | nil => exact .inr ⟨hh, List.not_mem_nil⟩
  | cons e tr ih =>
    rcases ih (w := w.applyEv m e) hh with h1 | ⟨h1, h2⟩
    · exact .inl (List.mem_cons_of_mem _ h1)
    obtain ⟨c, ok⟩ := e
    cases ok
    · exact .inr ⟨h1, fun hm => h2 ((List.mem_cons.mp hm).resolve_left nofun)⟩
    rcases mem_slaveEnabled_apply w m c h h1 with h3 | rfl
    · refine .inr ⟨h3, fun hm => ?_⟩
      rcases List.mem_cons.mp hm with he | hm
      · -- the call at the head switched `h` off
        cases he
        simp only [applyEv_ok, World.apply] at h1
        split at h1 <;> simp at h1
      · exact h2 hm
    · exact .inl List.mem_cons_self

def msOf (i : UpdIn) : Option SemiSyncState := (i.cs.get? i.master).bind (·.semiSync)

def oldWscOf (i : UpdIn) : Int :=
  match msOf i with | some ss => if ss.masterEnabled then ss.waitSlaveCount else 0 | none => 0

def wscOf (cfg : Cfg) (i : UpdIn) : Int := req cfg (filterOut i.active i.changes.dataLag)

def beforeAfter (cfg : Cfg) (i : UpdIn) : Bool × Bool :=
  if cfg.masterFirst then (decide (wscOf cfg i < oldWscOf i), decide (wscOf cfg i > oldWscOf i))
  else (decide (wscOf cfg i > oldWscOf i), decide (wscOf cfg i < oldWscOf i))

def seg1 (cfg : Cfg) (i : UpdIn) : List Ev × Bool :=
  if (beforeAfter cfg i).1 then adjustMaster i (msOf i) (wscOf cfg i) else ([], true)

def disableThen (i : UpdIn) (next : String → Call) (h : String) : List Ev :=
  let c := Call.ssDisable h
  if i.fails c then [⟨c, false⟩] else [⟨c, true⟩, ⟨next h, !i.fails (next h)⟩]

def seg2 (i : UpdIn) : List Ev := i.changes.becomeInactive.flatMap (disableThen i .restartIO)
def seg3 (i : UpdIn) : List Ev := i.changes.dataLag.flatMap (disableThen i .optEnable)

def loopOf (cfg : Cfg) (i : UpdIn) : List Ev × Int × List String :=
  enableLoop i i.changes.becomeActive (wscOf cfg i) i.active

def seg5 (cfg : Cfg) (i : UpdIn) : List Ev :=
  if (beforeAfter cfg i).2 then (adjustMaster i (msOf i) (loopOf cfg i).2.1).1 else []

/-- everything between the master ping and the publication -/
def body (cfg : Cfg) (i : UpdIn) : List Ev :=
  (seg1 cfg i).1 ++ seg2 i ++ seg3 i ++ (loopOf cfg i).1 ++ seg5 cfg i

theorem updateSemiSync_eq (cfg : Cfg) (i : UpdIn) :
    updateSemiSync cfg i =
      if i.fails .pingMaster then [⟨.pingMaster, false⟩]
      else if !(seg1 cfg i).2 then ⟨.pingMaster, true⟩ :: (seg1 cfg i).1
      else ⟨.pingMaster, true⟩ :: (body cfg i ++ publishPart i (loopOf cfg i).2.2) := rfl

theorem seg1_calls (cfg : Cfg) (i : UpdIn) {f : Footprint} (hf : f.master = true) :
    AllCalls (f.allows i.master) (seg1 cfg i).1 := by
  unfold seg1
  split
  · exact adjustMaster_calls _ _ _ hf
  · exact AllCalls.nil

theorem seg5_calls (cfg : Cfg) (i : UpdIn) {f : Footprint} (hf : f.master = true) :
    AllCalls (f.allows i.master) (seg5 cfg i) :=
  AllCalls.ite (adjustMaster_calls _ _ _ hf) AllCalls.nil

theorem disableThen_calls (i : UpdIn) (next : String → Call) (hs : List String) {f : Footprint} {m : String}
    (hf : f.master = true ∨ m ∉ hs) (hn : ∀ h, f.allows m (next h) = true) :
    AllCalls (f.allows m) (hs.flatMap (disableThen i next)) :=
  AllCalls.flatMap _ _ fun h hh =>
    have hd : f.allows m (.ssDisable h) = true := by
      rcases hf with hf | hf
      · simp [Footprint.allows, hf]
      · simpa [Footprint.allows] using Or.inr fun e : h = m => hf (e ▸ hh)
    AllCalls.ite (AllCalls.cons hd AllCalls.nil) (AllCalls.cons hd (AllCalls.cons (hn h) AllCalls.nil))

theorem seg2_calls (i : UpdIn) {f : Footprint} (hf : f.master = true ∨ i.master ∉ i.changes.becomeInactive) :
    AllCalls (f.allows i.master) (seg2 i) :=
  disableThen_calls i _ _ hf fun _ => rfl

theorem seg3_calls (i : UpdIn) {f : Footprint} (hf : f.master = true ∨ i.master ∉ i.changes.dataLag) :
    AllCalls (f.allows i.master) (seg3 i) :=
  disableThen_calls i _ _ hf fun _ => rfl

theorem loopOf_calls (cfg : Cfg) (i : UpdIn) {f : Footprint} {m : String} (hf : i.changes.becomeActive ⊆ f.sets) :
    AllCalls (f.allows m) (loopOf cfg i).1 :=
  enableLoop_calls _ _ _ _ hf

theorem mem_enableLoop (i : UpdIn) (hs : List String) (wsc : Int) (active : List String) (x : String)
    (hx : x ∈ (enableLoop i hs wsc active).2.2) : x ∈ active ∧ (x ∈ hs → i.fails (.ssSetSlave x) = false) := by
  fun_induction enableLoop i hs wsc active
  case case1 => exact ⟨hx, nofun⟩
  case case2 hr ih | case3 hr ih =>
    -- the loop goes on with the host of this round filtered out
    rw [hr] at ih
    obtain ⟨h1, h2⟩ := ih hx
    obtain ⟨h1, hne⟩ := List.mem_filter.mp h1
    exact ⟨h1, fun hm => h2 ((List.mem_cons.mp hm).resolve_left (by simpa using hne))⟩
  case case4 hns _ _ _ _ _ _ hr ih =>
    rw [hr] at ih
    obtain ⟨h1, h2⟩ := ih hx
    exact ⟨h1, fun hm => (List.mem_cons.mp hm).elim (fun e => e ▸ Bool.eq_false_iff.mpr hns) h2⟩

theorem publishPart_last (i : UpdIn) (active l : List String) (ok : Bool)
    (h : (⟨.publish l, ok⟩ : Ev) ∈ publishPart i active) : (publishPart i active).getLast? = some ⟨.publish l, ok⟩ := by
  revert h
  fun_cases publishPart i active <;> simp +contextual

theorem body_calls (cfg : Cfg) (i : UpdIn) :
    AllCalls (Footprint.allows ⟨i.changes.becomeActive, true⟩ i.master) (body cfg i) :=
  ((((seg1_calls cfg i rfl).append (seg2_calls i (.inl rfl))).append (seg3_calls i (.inl rfl))).append
    (loopOf_calls cfg i (List.Subset.refl _))).append (seg5_calls cfg i rfl)

end ActiveNodesLemmas
