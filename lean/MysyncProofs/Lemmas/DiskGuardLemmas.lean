/- Lemmas for C18 (MysyncProofs/C18.lean): the predicates its statements use, one loop iteration classified (`Kind`),
the fold over the DCS view, the part after the loop, the thresholds. -/
import MysyncModel.App.DiskGuard

namespace C18
open NS DiskGuard

/-- the master's own record is at or above the critical level -/
def MasterCritical (cfg : Cfg) (m : String) (dcs : ClusterState) : Prop :=
  ∃ e ∈ dcs, e.2.isMaster = true ∧ m = e.1 ∧ ∃ d, e.2.disk = some d ∧ d.usageGe cfg.crit = true

/-- the master's own record is in the grey zone (above non-critical, below critical) -/
def MasterGrey (cfg : Cfg) (m : String) (dcs : ClusterState) : Prop :=
  ∃ e ∈ dcs, e.2.isMaster = true ∧ m = e.1 ∧ ∃ d, e.2.disk = some d ∧ d.usageGe cfg.crit = false ∧ d.usageGt cfg.notCrit = true

/-- so many running semi-sync replicas are at critical usage that the rest cannot satisfy the count -/
def ReplicasCritical (ms : NodeState) (t : Tally) : Prop :=
  t.running > 0 ∧ ∃ ss, ms.semiSync = some ss ∧ t.low > t.running - ss.waitSlaveCount

end C18

namespace DiskGuardLemmas
open NS DiskGuard C18

/-- what one DCS entry does to the accumulator: which of the six depends only on the entry, not on the accumulator;
all order and characterisation facts follow from that -/
inductive Kind
  | skip      -- nothing
  | crit      -- master at critical usage: `needRo := true`
  | grey      -- master in the grey zone: `mayWrite := false`
  | low       -- counted replica at critical usage
  | mid       -- counted replica in the grey zone
  | normal    -- counted replica at normal usage
  deriving DecidableEq

/-- the "running semi-sync replica" condition of the loop -/
def counted (cfg : Cfg) (node : NodeState) : Bool :=
  cfg.semiSync &&
    (match node.semiSync with | some s => s.slaveEnabled | none => false) &&
    (match node.slave with | some s => s.state == .running | none => false)

def kind (cfg : Cfg) (m : String) (e : String × NodeState) : Kind :=
  match e.2.disk with
  | none => .skip
  | some d =>
    if e.2.isMaster && m == e.1 then
      if d.usageGe cfg.crit then .crit
      else if d.usageGt cfg.notCrit then .grey
      else .skip
    else if counted cfg e.2 then
      if d.usageGe cfg.crit then .low
      else if d.usageGt cfg.notCrit then .mid
      else .normal
    else .skip

def applyKind (t : Tally) : Kind → Tally
  | .skip => t
  | .crit => { t with needRo := true }
  | .grey => { t with mayWrite := false }
  | .low => { t with running := t.running + 1, low := t.low + 1 }
  | .mid => { t with running := t.running + 1 }
  | .normal => { t with running := t.running + 1, normal := t.normal + 1 }

theorem tallyStep_eq (cfg : Cfg) (m : String) (t : Tally) (e : String × NodeState) :
    tallyStep cfg m t e = applyKind t (kind cfg m e) := by
  obtain ⟨host, node⟩ := e
  unfold tallyStep kind
  dsimp only
  cases node.disk with
  | none => rfl
  | some d =>
    dsimp only
    -- the model's local `counted` is `counted cfg node`
    show (if _ then _ else if counted cfg node = true then _ else _) = _
    cases (node.isMaster && m == host) <;> cases counted cfg node <;>
      cases d.usageGe cfg.crit <;> cases d.usageGt cfg.notCrit <;> rfl

theorem applyKind_comm (t : Tally) (a b : Kind) :
    applyKind (applyKind t a) b = applyKind (applyKind t b) a := by
  cases a <;> cases b <;> rfl

theorem tallyStep_comm (cfg : Cfg) (m : String) (t : Tally) (a b : String × NodeState) :
    tallyStep cfg m (tallyStep cfg m t a) b = tallyStep cfg m (tallyStep cfg m t b) a := by
  simp only [tallyStep_eq, applyKind_comm]

theorem kind_master_iff (cfg : Cfg) (m : String) (e : String × NodeState) :
    (kind cfg m e = .crit ↔
      (e.2.isMaster = true ∧ m = e.1 ∧ ∃ d, e.2.disk = some d ∧ d.usageGe cfg.crit = true)) ∧
    (kind cfg m e = .grey ↔
      (e.2.isMaster = true ∧ m = e.1 ∧
        ∃ d, e.2.disk = some d ∧ d.usageGe cfg.crit = false ∧ d.usageGt cfg.notCrit = true)) := by
  unfold kind
  cases hd : e.2.disk with
  | none => simp
  | some d =>
    simp only [Option.some.injEq, exists_eq_left', ← beq_iff_eq (a := m)]
    -- both sides of either equivalence are Boolean in the four tests of `kind`
    constructor <;> rw [← and_assoc, ← Bool.and_eq_true] <;>
      cases (e.2.isMaster && m == e.1) <;> cases counted cfg e.2 <;>
      cases d.usageGe cfg.crit <;> cases d.usageGt cfg.notCrit <;> decide

theorem applyKind_needRo (t : Tally) (k : Kind) :
    (applyKind t k).needRo = true ↔ (t.needRo = true ∨ k = .crit) := by
  cases k <;> simp [applyKind]

theorem applyKind_mayWrite (t : Tally) (k : Kind) :
    (applyKind t k).mayWrite = false ↔ (t.mayWrite = false ∨ k = .grey) := by
  cases k <;> simp [applyKind]

theorem foldl_flag (cfg : Cfg) (m : String) (P : Tally → Prop) (k0 : Kind)
    (hstep : ∀ t k, P (applyKind t k) ↔ (P t ∨ k = k0)) (dcs : ClusterState) (t : Tally) :
    P (dcs.foldl (tallyStep cfg m) t) ↔ (P t ∨ ∃ e ∈ dcs, kind cfg m e = k0) := by
  induction dcs generalizing t with
  | nil => simp
  | cons a l ih =>
    rw [List.foldl_cons, ih, tallyStep_eq, hstep]
    simp only [List.mem_cons, exists_eq_or_imp, or_assoc]

def Sane (t : Tally) : Prop := 0 ≤ t.low ∧ 0 ≤ t.normal ∧ t.low + t.normal ≤ t.running

theorem applyKind_sane (t : Tally) (k : Kind) (h : Sane t) : Sane (applyKind t k) := by
  obtain ⟨h1, h2, h3⟩ := h
  cases k <;> simp only [applyKind, Sane] <;> omega

theorem foldl_sane (cfg : Cfg) (m : String) (dcs : ClusterState) (t : Tally) (h : Sane t) :
    Sane (dcs.foldl (tallyStep cfg m) t) :=
  List.foldlRecOn dcs _ h fun t ht e _ => tallyStep_eq cfg m t e ▸ applyKind_sane t _ ht

theorem afterReplicas_needRo (ms : NodeState) (t : Tally) :
    (afterReplicas ms t).needRo = true ↔ (t.needRo = true ∨ ReplicasCritical ms t) := by
  unfold afterReplicas ReplicasCritical
  by_cases hr : t.running > 0
  · simp only [hr, if_true, true_and]
    cases hs : ms.semiSync with
    | none =>
      simp only [reduceCtorEq, false_and, exists_false, or_false]
      split <;> rfl
    | some ss =>
      simp only [Option.some.injEq, exists_eq_left']
      by_cases hl : t.low > t.running - ss.waitSlaveCount
      · simp [hl]
      · simp only [hl, if_false, or_false]
        split <;> rfl
  · simp [hr]

theorem afterReplicas_mayWrite (ms : NodeState) (t : Tally) (hn : ¬ ReplicasCritical ms t) :
    (afterReplicas ms t).mayWrite = false ↔ (t.mayWrite = false ∨ (t.running > 0 ∧ t.normal = 0)) := by
  unfold afterReplicas
  unfold ReplicasCritical at hn
  by_cases hr : t.running > 0
  · simp only [hr, if_true, true_and]
    cases hs : ms.semiSync with
    | none =>
      simp only
      by_cases h0 : t.normal = 0 <;> simp [h0]
    | some ss =>
      have hl : ¬ t.low > t.running - ss.waitSlaveCount := fun h => hn ⟨hr, ss, hs, h⟩
      simp only [hl, if_false]
      by_cases h0 : t.normal = 0 <;> simp [h0]
  · simp [hr]

/-- `decide_` sees the view only through the two flags that `afterReplicas` leaves -/
theorem decide_ro_iff (cfg : Cfg) (m : String) (ms : NodeState) (dcs : ClusterState) :
    ((∃ s, decide_ cfg m ms dcs = .setReadOnly s) ∨ decide_ cfg m ms dcs = .alreadyReadOnly) ↔
      (afterReplicas ms (tally cfg m dcs)).needRo = true := by
  fun_cases decide_ cfg m ms dcs
  all_goals simp_all +zetaDelta

theorem decide_setWritable (cfg : Cfg) (m : String) (ms : NodeState) (dcs : ClusterState)
    (h : decide_ cfg m ms dcs = .setWritable) :
    ms.isReadOnly = true ∧ (afterReplicas ms (tally cfg m dcs)).needRo = false ∧
      (afterReplicas ms (tally cfg m dcs)).mayWrite = true := by
  revert h
  fun_cases decide_ cfg m ms dcs
  all_goals simp_all +zetaDelta

theorem decide_greyZone (cfg : Cfg) (m : String) (ms : NodeState) (dcs : ClusterState)
    (hn : (afterReplicas ms (tally cfg m dcs)).needRo = false)
    (hw : (afterReplicas ms (tally cfg m dcs)).mayWrite = false) :
    decide_ cfg m ms dcs = .greyZone := by
  fun_cases decide_ cfg m ms dcs
  all_goals simp_all +zetaDelta

theorem thresholds (d : DiskState) (crit notCrit : Int) (hlt : notCrit < crit)
    (hle : d.usageGt notCrit = false) : d.usageGe crit = false := by
  unfold DiskState.usageGt at hle
  unfold DiskState.usageGe
  by_cases h0 : (d.total == 0) = true
  · rw [if_pos h0] at hle ⊢
    rw [decide_eq_false_iff_not] at hle ⊢
    omega
  · rw [if_neg h0] at hle ⊢
    by_cases h1 : d.used > d.total
    · rw [if_pos h1] at hle ⊢
      rw [decide_eq_false_iff_not] at hle ⊢
      omega
    · rw [if_neg h1] at hle ⊢
      rw [decide_eq_false_iff_not] at hle ⊢
      have ht : (0 : Int) < (d.total : Int) := by
        have : d.total ≠ 0 := by simpa using h0
        omega
      have := Int.mul_lt_mul_of_pos_right hlt ht
      omega

end DiskGuardLemmas
