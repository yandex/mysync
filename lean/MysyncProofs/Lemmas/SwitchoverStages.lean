/-
`performSwitchover` and `promotePart` as a linear list of STAGES (for C01 / C07 / C11 / C19 / C20), written in segments
that follow the phases of the procedure (`sOpt`, `sFreeze`, `sStop`, `sChoose`, `pHead`, `pFin`).  `promotePart_eq` and
`performSwitchover_eq` walk the `if … then … else` chain of the model once, one stage per guard (`peel`); every
membership / ordering / last-step fact is then derived from the stage list (SwitchoverLemmas.lean).
-/
import MysyncModel.App.Switchover

namespace SwitchoverLemmas
open NS Gtid Select Switchover

/-- a guard, the steps taken when it holds, the steps taken (before stopping) when it does not -/
structure Stage where
  ok : Bool
  good : List Step
  bad : List Step := []

/-- execute stages in order; stop after the first failed guard -/
def run : List Stage → List Step
  | [] => []
  | s :: r => if s.ok then s.good ++ run r else s.bad

@[simp] theorem run_nil : run [] = [] := rfl
theorem run_cons (s : Stage) (r : List Stage) : run (s :: r) = if s.ok then s.good ++ run r else s.bad := rfl

theorem run_append (a b : List Stage) :
    run (a ++ b) = if a.all (·.ok) then run a ++ run b else run a := by
  induction a with
  | nil => rfl
  | cons s r ih =>
    rw [List.cons_append, run_cons, run_cons, List.all_cons, ih]
    cases s.ok <;> cases r.all (·.ok) <;> simp

/-- the old master gets the recovery mark unless it is a confirmed clean replica -/
def needRecovery (i : In) (mr : Pos) : Bool :=
  match i.oldStatus with
  | .err | .notReplica => true
  | .replica st ex => isSlavePermanentlyLost st ex mr.gtid

/-- hosts re-pointed to the new master in phase 5 -/
def targets (i : In) (nm : Pos) : List String :=
  (workList i).filter fun h => h != nm.host && (pingOk i.cs2 h == some true)

/-- `promotePart` up to and including `STOP SLAVE` on the new master (phases 4, 5 and the recovery mark) -/
def pHead (i : In) (nm mr : Pos) : List Stage :=
  [ { ok := true, good := [.chosen nm.host mr.host] },
    { ok := !(nm.host != mr.host && !i.mostRecentOnlineOk),
      good := if nm.host != mr.host then [.setOnline mr.host true] else [],
      bad := [.setOnline mr.host false] },
    { ok := !(nm.host != mr.host && !i.catchUpChangeOk),
      good := if nm.host != mr.host then [.changeMaster nm.host mr.host true] else [],
      bad := [.changeMaster nm.host mr.host false] },
    { ok := true, good := [.catchUp i.catchUp] },
    { ok := i.catchUp == .caught || i.catchUp == .asyncEscape, good := [] },
    { ok := i.lock2, good := [.lockCheck 2 true], bad := [.lockCheck 2 false] },
    { ok := (pingOk i.cs2 nm.host).isSome, good := [], bad := [.panic "clusterState[newMaster]"] },
    { ok := (pingOk i.cs2 nm.host == some true) && (dubiousHAHosts i.cs2).isEmpty, good := [.restate true], bad := [.restate false] },
    { ok := i.newMasterOnlineOk,
      good := Step.setOnline nm.host true :: (targets i nm).map fun h => Step.changeMaster h nm.host (i.repoint h),
      bad := [.setOnline nm.host false] },
    { ok := !(workList i).any (fun h => (pingOk i.cs2 h).isNone), good := [], bad := [.panic "clusterState[host]"] },
    { ok := (targets i nm).all i.repoint, good := [] },
    { ok := !(needRecovery i mr && !i.setRecoveryOk),
      good := if needRecovery i mr then [.setRecovery i.oldMaster true] else [],
      bad := [.setRecovery i.oldMaster false] },
    { ok := i.stopSlaveOk, good := [.stopSlave nm.host true], bad := [.stopSlave nm.host false] } ]

def pReset (i : In) (nm : Pos) : Stage :=
  { ok := i.resetOk, good := [.resetSlaveAll nm.host true, .updateActiveNodes], bad := [.resetSlaveAll nm.host false] }
def pWritable (i : In) (nm : Pos) : Stage :=
  { ok := i.writableOk, good := [.setWritable nm.host true], bad := [.setWritable nm.host false] }
def pEvents (i : In) (nm : Pos) : Stage :=
  { ok := i.eventsOk, good := [.reenableEvents true, .setMasterKey nm.host i.masterKeyOk], bad := [.reenableEvents false] }

/-- the final phase (after `STOP SLAVE` on the new master) -/
def pFin (i : In) (nm : Pos) : List Stage := [pReset i nm, pWritable i nm, pEvents i nm]

def pStages (i : In) (nm mr : Pos) : List Stage := pHead i nm mr ++ pFin i nm

/-! ### walking the model's `if … then … else` chain

The model threads the steps taken so far (`acc`) through its guards: `if c then acc ++ bad else …`, where `…` goes on
with `acc ++ good`.  Each lemma below turns one such guard into one stage in front of `run`.  The side conditions
default to the common case (the guard is written `!ok`, the lists are the stage's own) and are given where the model
writes the same thing differently (a guard `c` where the stage has `ok := !c`, `s ++ [a, b]` for `s ++ [a] ++ [b]`, `s` for
`s ++ []`). -/

theorem peel {c : Bool} {X Y acc acc' : List Step} {stg : Stage} {r : List Stage}
    (hY : Y = acc' ++ run r) (hc : stg.ok = !c := by exact (Bool.not_not _).symm)
    (hX : c = true → X = acc ++ stg.bad := by exact fun _ => rfl) (hacc : acc ++ stg.good = acc' := by rfl) :
    (if c = true then X else Y) = acc ++ run (stg :: r) := by
  rw [run_cons, hc, hY, ← hacc]
  cases c
  · exact List.append_assoc ..
  · exact hX rfl

theorem peel_guard {c : Bool} {X Y acc : List Step} {stg : Stage} {r : List Stage}
    (hY : Y = acc ++ run r) (hc : stg.ok = !c := by exact (Bool.not_not _).symm)
    (hX : c = true → X = acc ++ stg.bad := by exact fun _ => rfl) (hg : stg.good = [] := by rfl) :
    (if c = true then X else Y) = acc ++ run (stg :: r) :=
  peel hY hc hX (by rw [hg, List.append_nil])

theorem peel_step {Y acc acc' : List Step} {stg : Stage} {r : List Stage}
    (hY : Y = acc' ++ run r) (hc : stg.ok = true := by rfl) (hacc : acc ++ stg.good = acc' := by rfl) :
    Y = acc ++ run (stg :: r) := by
  rw [run_cons, hc, hY, ← hacc]
  exact List.append_assoc ..

/-- `peel` for a `(steps, go)` pair computed by some guards `a` of its own and then matched on.  `M` stands for the
matcher the model's `match p with | (s, go) => …` was compiled to (`hM`: `fun _ _ _ => rfl`). -/
theorem peel_pair {M : List Step × Bool → (List Step → Bool → List Step) → List Step}
    (hM : ∀ s go K, M (s, go) K = K s go) {p : List Step × Bool} {acc : List Step} (a : List Stage) {r : List Stage}
    {Y : List Step → List Step} (hp : p = (acc ++ run a, a.all (·.ok))) (hY : ∀ s, Y s = s ++ run r) :
    M p (fun s go => if (!go) = true then s else Y s) = acc ++ run (a ++ r) := by
  subst hp
  simp only [hM, run_append, hY]
  cases a.all (·.ok)
  · rfl
  · exact List.append_assoc ..

theorem promotePart_eq (cfg : Cfg) (i : In) (nm mr : Pos) (pre : List Step) :
    promotePart cfg i nm mr pre = pre ++ run (pStages i nm mr) := by
  unfold promotePart pStages pHead pFin pReset pWritable pEvents
  extract_lets +onlyGivenNames s0
  refine peel_step (acc' := s0) ?_
  refine peel_pair (fun _ _ _ => rfl) [_, _] ?_ fun s1 => ?_
  · cases (nm.host != mr.host) <;> cases i.mostRecentOnlineOk <;> cases i.catchUpChangeOk <;> simp [run_cons]
  refine peel_step ?_
  refine peel_guard (hX := fun _ => (List.append_nil _).symm) ?_
  refine peel ?_
  cases h : pingOk i.cs2 nm.host with
  | none => exact peel_guard (c := true) rfl
  | some p =>
  refine peel_step (hacc := List.append_nil _) ?_
  refine peel (hc := by cases p <;> simp) ?_
  refine peel (hacc := List.append_cons ..) ?_
  refine peel_guard (hc := rfl) ?_
  refine peel_guard (hX := fun _ => (List.append_nil _).symm) ?_
  extract_lets +onlyGivenNames nr
  refine peel_pair (fun _ _ _ => rfl) [_] ?_ fun s6 => ?_
  · show (if needRecovery i mr = true then _ else _) = _
    cases needRecovery i mr <;> cases i.setRecoveryOk <;> simp [run_cons, targets]
  refine peel ?_
  refine peel (hX := fun _ => List.append_cons ..) (hacc := List.append_assoc ..) ?_
  refine peel ?_
  refine peel (hX := fun _ => List.append_cons ..) (hacc := List.append_assoc ..) ?_
  exact (List.append_nil _).symm

def psOf (i : In) : List Pos := i.positions.getD []
def mrOf (i : In) : Pos := match findMostRecent (psOf i) with | .node m => m | _ => default
def isNode : MostRecent → Bool | .node _ => true | _ => false
def isDNode : Desirable → Bool | .node _ => true | _ => false
def nmOf (cfg : Cfg) (i : In) : Pos :=
  if i.sw.to != "" then ((psOf i).find? (·.host == i.sw.to)).getD { host := i.sw.to, gtid := [], lag := 0, prio := 0 }
  else if i.sw.from_ != "" then
    (match mostDesirable cfg.priorityChoiceMaxLag (filterOutHost (psOf i) i.sw.from_) with | .node nm => nm | _ => default)
  else mrOf i

def roOk (i : In) (h : String) : Bool := (pingOk i.cs h == some true) && i.ro h
def qOk (cfg : Cfg) (i : In) : Bool := (Gen.SwitchHelper.CheckFailoverQuorum (sh cfg) i.active (frozen i).length).isNone

/-- steps of the inner rejection of a planned switchover whose old master could not be frozen -/
def rejectBad (ok : Bool) : List Step := if ok then [.rejectInside] else [.rejectInside, .fail "reject failed"]

@[simp] theorem mem_rejectBad {s : Step} {ok : Bool} :
    s ∈ rejectBad ok ↔ s = .rejectInside ∨ (ok = false ∧ s = .fail "reject failed") := by
  cases ok <;> simp [rejectBad]

/-- what happens when the collected positions have no maximum -/
def mrBad : MostRecent → List Step
  | .panic => [.panic "positions[0]"]
  | .splitBrain => [.writeEmerge]
  | .node _ => []

@[simp] theorem mem_mrBad {s : Step} {x : MostRecent} :
    s ∈ mrBad x ↔ (x = .panic ∧ s = .panic "positions[0]") ∨ (x = .splitBrain ∧ s = .writeEmerge) := by
  cases x <;> simp [mrBad]

/-- what precedes phase 1: the entry checks and the shut-off of the optimisation (phase 0) -/
def sOpt (i : In) : List Stage :=
  [ { ok := !(i.sw.to != "" && !i.active.contains i.sw.to), good := [], bad := [.fail "replica is not active"] },
    { ok := (dubiousHAHosts i.cs).isEmpty, good := [], bad := [.fail "dubious hosts"] },
    -- every listed host and the recorded master are registered hosts; checked before anything is touched
    -- (fix fc0b66f; nil dereferences before)
    { ok := !(workList i ++ [i.oldMaster]).any (fun h => (pingOk i.cs h).isNone), good := [],
      bad := [.fail "host is not among cluster hosts"] },
    { ok := i.optStopOk, good := [.stopOptimization true], bad := [.stopOptimization false] },
    { ok := !(i.turbo && !i.turboOk), good := if i.turbo then [.turboPhase true] else [], bad := [.turboPhase false] },
    -- the second shut-off of the optimisation, after a successful speed-up phase (fix 97bff8a)
    { ok := !(i.turbo && !i.optStop2Ok), good := if i.turbo then [.stopOptimization true] else [],
      bad := [.stopOptimization false] } ]

/-- phase 1 -/
def sFreeze (i : In) : Stage := { ok := true, good := (workList i).map fun h => Step.freezeRO h (roOk i h) }

/-- a planned switchover whose old master could not be frozen is rejected -/
def sReject (i : In) : Stage :=
  { ok := !((workList i).contains i.oldMaster && !roOk i i.oldMaster && !i.sw.failoverType), good := [],
    bad := rejectBad i.rejectOk }

/-- phase 2 and the count of the frozen hosts
(the guard of this stage always holds when it is reached: `RobustLemmas.oldMaster_stage_unreachable`) -/
def sStopIO (cfg : Cfg) (i : In) : Stage :=
  { ok := (pingOk i.cs i.oldMaster).isSome,
    good := ((workList i).filter (· != i.oldMaster)).map (fun h => Step.stopIO h ((pingOk i.cs h == some true) && i.io h))
      ++ [.quorumCheck (frozen i).length (qOk cfg i)],
    bad := [.panic "clusterState[oldMaster]"] }

/-- from the rejection to the collection of positions (phases 2–3a) -/
def sStop (cfg : Cfg) (i : In) : List Stage :=
  [ sReject i, sStopIO cfg i,
    { ok := qOk cfg i, good := [] },
    { ok := i.lock1, good := [.lockCheck 1 true], bad := [.lockCheck 1 false] },
    { ok := i.positions.isSome && !((psOf i).length != (frozen i).length), good := [.positions true], bad := [.positions false] } ]

/-- "no suitable nodes to switch from": the only collected position is the host to switch from -/
def sOnly (i : In) : Stage :=
  { ok := !((psOf i).length == 1 && ((psOf i).head?.map (·.host)) == some i.sw.from_), good := [],
    bad := [.fail "no suitable nodes to switch from"] }
/-- the positions have a maximum (no split brain) -/
def sNode (i : In) : Stage :=
  { ok := isNode (findMostRecent (psOf i)), good := [], bad := mrBad (findMostRecent (psOf i)) }
def sPick (cfg : Cfg) (i : In) : Stage :=
  { ok := i.sw.to != "" || i.sw.from_ == "" || isDNode (mostDesirable cfg.priorityChoiceMaxLag (filterOutHost (psOf i) i.sw.from_)),
    good := [], bad := [.fail "no highest priority node"] }

/-- the choice of the new master (phase 3b) -/
def sChoose (cfg : Cfg) (i : In) : List Stage := [sOnly i, sNode i, sPick cfg i]

def sMid (cfg : Cfg) (i : In) : List Stage := sStop cfg i ++ sChoose cfg i

def sPre (cfg : Cfg) (i : In) : List Stage := sOpt i ++ sFreeze i :: sMid cfg i

def stages (cfg : Cfg) (i : In) : List Stage := sPre cfg i ++ pStages i (nmOf cfg i) (mrOf i)

theorem performSwitchover_eq (cfg : Cfg) (i : In) : performSwitchover cfg i = run (stages cfg i) := by
  show _ = [] ++ run (stages cfg i)
  unfold performSwitchover stages sPre sMid sChoose sStop sStopIO sReject sFreeze sOpt sOnly sNode sPick
  refine peel_guard (hc := rfl) ?_
  refine peel_guard ?_
  extract_lets +onlyGivenNames wl
  refine peel_guard (hc := rfl) ?_
  refine peel ?_
  -- the two stages of the speed-up phase take `turboPhase true` as a step of the first, the model as a step of the second
  extract_lets +onlyGivenNames s0 turbo s1
  refine peel (hc := rfl) ?_
  refine peel (acc' := s1) (hc := rfl) (hX := fun h => by simp_all [turbo, s0])
    (hacc := by cases ht : i.turbo <;> simp [s1, s0, turbo, ht]) ?_
  extract_lets +onlyGivenNames ro s2
  refine peel_step (acc' := s2) ?_
  refine peel_guard (hc := rfl) (hX := fun _ => by cases i.rejectOk <;> rfl) ?_
  cases hom : pingOk i.cs i.oldMaster with
  | none => exact peel (c := true) rfl
  | some _ =>
  extract_lets +onlyGivenNames s3 fr q s4
  refine peel_step (acc' := s4) (hacc := (List.append_assoc ..).symm) ?_
  refine peel_guard (hX := fun _ => (List.append_nil _).symm) ?_
  refine peel ?_
  cases hpos : i.positions with
  | none => exact peel (c := true) rfl
  | some ps =>
  have hps : psOf i = ps := by rw [psOf, hpos]; rfl
  rw [hps]
  refine peel (hc := rfl) ?_
  refine peel_guard (hc := rfl) ?_
  cases hm : findMostRecent ps with
  | panic => exact peel_guard (c := true) rfl
  | splitBrain => exact peel_guard (c := true) rfl
  | node mr =>
  refine peel_step (hacc := List.append_nil _) ?_
  rw [show mrOf i = mr by rw [mrOf, hps, hm]]
  -- who is promoted: the three rows of `nmOf`; the guard of `sPick` fails only in the last
  cases hto : (i.sw.to != "")
  case true =>
    rw [nmOf, if_pos hto, hps]
    exact peel_step (hacc := List.append_nil _) (promotePart_eq cfg ..)
  cases hfrom : (i.sw.from_ != "")
  case false =>
    rw [show nmOf cfg i = mr by simp [nmOf, hto, hfrom, mrOf, hps, hm]]
    exact peel_step (hc := by simp_all) (hacc := List.append_nil _) (promotePart_eq cfg ..)
  cases hd : mostDesirable cfg.priorityChoiceMaxLag (filterOutHost ps i.sw.from_) with
  | node nm =>
    rw [show nmOf cfg i = nm by simp [nmOf, hto, hfrom, hps, hd]]
    exact peel_step (hc := Bool.or_true _) (hacc := List.append_nil _) (promotePart_eq cfg ..)
  | _ => exact peel_guard (c := true) (hc := by simp_all [isDNode]) rfl

end SwitchoverLemmas
