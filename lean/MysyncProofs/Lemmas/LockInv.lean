/- Lemmas for C03, part 2: the inductive invariant of the guarded lock system.  A step of client `i` is split into
what the server does (`srv_step`: the others' part of the invariant, and what the reply leads to) and what the
client goes on with (`Safe`, `inv_settle`). -/
import MysyncProofs.Lemmas.LockServer
import MysyncProofs.Lemmas.LockStep
import MysyncProofs.Lemmas.ZkServer
namespace LockLemmas
open Zk LockSys ZkLemmas

/-- the lock znode exists, carries `id` and belongs to the live session `sid` -/
def HoldsC (s : Server) (lock : Path) (id : String) (sid : Sid) : Prop :=
  ∃ n, s.find? lock = some n ∧ n.data = id ∧ n.owner = sid ∧ sid ∈ s.live

/-- the program points that need nothing from the server -/
def PureShape (lock : Path) (id : String) (acq : Bool) (p : Option (Prog Res)) : Prop :=
  p = none ∨ p = some (.ret .done) ∨ p = some (.call (.get lock) (kAcq lock id)) ∨
  p = some (.call (.create lock id true) kCre) ∨ ∃ n, p = some (.call (.get lock) (kRel lock id n)) ∧ acq = false

/-- the operation in flight of a client is at one of a few program points; at the last one (the `delete`
of `ReleaseLock` is pending) the client still holds the lock.  The release points have `acquiring = false`
(the blind re-send `primLostRetry` is for `AcquireLock` only). -/
def ProgShape (s : Server) (lock : Path) (id : String) (sid : Sid) (acq : Bool) (p : Option (Prog Res)) : Prop :=
  PureShape lock id acq p ∨
  ∃ n ver, p = some (.call (.delete lock ver) (kDel lock id n)) ∧ acq = false ∧ HoldsC s lock id sid

def ClientOK (s : Server) (lock : Path) (c : Client) : Prop :=
  (c.cache ≠ none → c.prog = none ∧ HoldsC s lock c.id c.sid) ∧ ProgShape s lock c.id c.sid c.acquiring c.prog

/-- the part of the invariant that is not about one client -/
structure Core (ids : List String) (lock : Path) (σ : Sys) : Prop where
  lock_eq : σ.lock = lock
  lock_ne : lock ≠ []
  ids_eq : σ.clients.map (·.id) = ids
  ids_nd : ids.Nodup
  nd : (σ.srv.nodes.map (·.1)).Nodup
  sid_lt : ∀ (i : Nat) (c : Client), σ.clients[i]? = some c → c.sid < σ.nextSid
  sid_inj : ∀ (i j : Nat) (ci cj : Client), σ.clients[i]? = some ci → σ.clients[j]? = some cj → ci.sid = cj.sid → i = j
  owner : ∀ n, σ.srv.find? lock = some n → ∃ (j : Nat) (c : Client), σ.clients[j]? = some c ∧ HoldsC σ.srv lock c.id c.sid

def OthersOK (lock : Path) (σ : Sys) (i : Nat) : Prop :=
  ∀ (j : Nat) (c : Client), j ≠ i → σ.clients[j]? = some c → ClientOK σ.srv lock c

def AllOK (lock : Path) (σ : Sys) : Prop :=
  ∀ (j : Nat) (c : Client), σ.clients[j]? = some c → ClientOK σ.srv lock c

structure Inv (ids : List String) (lock : Path) (σ : Sys) : Prop where
  core : Core ids lock σ
  ok : AllOK lock σ

theorem AllOK.others {lock : Path} {σ : Sys} (h : AllOK lock σ) (i : Nat) : OthersOK lock σ i :=
  fun j c _ hj => h j c hj

variable {ids : List String} {lock : Path}

theorem HoldsC.unique {s : Server} {id1 id2 : String} {sid1 sid2 : Sid}
    (h1 : HoldsC s lock id1 sid1) (h2 : HoldsC s lock id2 sid2) : id1 = id2 ∧ sid1 = sid2 := by
  obtain ⟨n1, hf1, hd1, ho1, _⟩ := h1
  obtain ⟨n2, hf2, hd2, ho2, _⟩ := h2
  rw [hf1] at hf2
  cases hf2
  exact ⟨hd1.symm.trans hd2, ho1.symm.trans ho2⟩

theorem Core.id_inj {σ : Sys} (hc : Core ids lock σ) {i j : Nat} {ci cj : Client}
    (hi : σ.clients[i]? = some ci) (hj : σ.clients[j]? = some cj) (h : ci.id = cj.id) : i = j := by
  have h1 : ids[i]? = some ci.id := by rw [← hc.ids_eq, List.getElem?_map, hi]; rfl
  have h2 : ids[j]? = some cj.id := by rw [← hc.ids_eq, List.getElem?_map, hj]; rfl
  obtain ⟨hlt, _⟩ := List.getElem?_eq_some_iff.1 h1
  exact (List.getElem?_inj hlt hc.ids_nd).1 (by rw [h1, h2, h])

theorem Core.holder_same {σ : Sys} (hc : Core ids lock σ) {i j : Nat} {ci cj : Client}
    (hi : σ.clients[i]? = some ci) (hj : σ.clients[j]? = some cj)
    (h1 : HoldsC σ.srv lock ci.id ci.sid) (h2 : HoldsC σ.srv lock cj.id cj.sid) : i = j :=
  hc.id_inj hi hj (h1.unique h2).1

theorem Core.holds_of_data {σ : Sys} (hc : Core ids lock σ) {i : Nat} {c : Client}
    (hi : σ.clients[i]? = some c) {n : ZNode} (hf : σ.srv.find? lock = some n) (hd : n.data = c.id) :
    HoldsC σ.srv lock c.id c.sid := by
  obtain ⟨j, cj, hj, hh⟩ := hc.owner n hf
  obtain ⟨n', hf', hd', _⟩ := id hh
  rw [hf] at hf'
  cases hf'
  cases hc.id_inj hj hi (hd'.symm.trans hd)
  rw [hi] at hj
  cases hj
  exact hh

theorem ClientOK.mono {s s' : Server} {c : Client}
    (hm : HoldsC s lock c.id c.sid → HoldsC s' lock c.id c.sid) (h : ClientOK s lock c) : ClientOK s' lock c := by
  obtain ⟨h1, h2⟩ := h
  refine ⟨fun hne => ⟨(h1 hne).1, hm (h1 hne).2⟩, ?_⟩
  rcases h2 with h2 | ⟨n, ver, h2, ha, hh⟩
  · exact Or.inl h2
  · exact Or.inr ⟨n, ver, h2, ha, hm hh⟩

/-- Only a cache entry and the pending `delete` of a ReleaseLock need the server.  A client without them, or one
that does not hold the lock anyway, is in order on any server and with any session. -/
theorem ClientOK.detached {s s' : Server} {c : Client} (h : ClientOK s lock c)
    (hfree : c.cache = none ∧ (c.prog = none ∨ c.acquiring = true) ∨ ¬ HoldsC s lock c.id c.sid) (sid' : Sid) :
    ClientOK s' lock { c with sid := sid' } := by
  refine ⟨fun hne => ?_, ?_⟩
  · rcases hfree with ⟨hcache, _⟩ | hnot
    · exact absurd hcache hne
    · exact absurd (h.1 hne).2 hnot
  · rcases h.2 with h2 | ⟨n, ver, h2, hacq, hh⟩
    · exact Or.inl h2
    · rcases hfree with ⟨_, hp | ha⟩ | hnot
      · rw [hp] at h2; cases h2
      · rw [hacq] at ha; cases ha
      · exact absurd hh hnot

theorem ClientOK.pending {s : Server} {c : Client} {p : Prim} {k : Resp → Prog Res} (h : ClientOK s lock c)
    (hp : c.prog = some (.call p k)) :
    c.cache = none ∧ ProgShape s lock c.id c.sid c.acquiring (some (.call p k)) := by
  refine ⟨Decidable.of_not_not fun hne => ?_, hp ▸ h.2⟩
  cases hp.symm.trans (h.1 hne).1

theorem OthersOK.all {σ : Sys} {i : Nat} {c : Client} (ho : OthersOK lock σ i) (hi : σ.clients[i]? = some c)
    (hok : ClientOK σ.srv lock c) : AllOK lock σ := by
  intro j cj hj
  by_cases hji : j = i
  · subst hji; rw [hi] at hj; cases hj; exact hok
  · exact ho j cj hji hj

/-- The frame of every step: client `i` becomes `c'` (same identity; its session, or, if it holds nothing, the next
fresh one), the lock znode stays, and the server keeps what anybody holds. -/
theorem inv_update {σ : Sys} {i : Nat} {c c' : Client} {srv : Server} {next : Sid} {told : List (Nat × Bool)}
    (hc : Core ids lock σ) (ho : OthersOK lock σ i) (hi : σ.clients[i]? = some c) (hid : c'.id = c.id)
    (hsid : c'.sid = c.sid ∧ next = σ.nextSid ∨
            c'.sid = σ.nextSid ∧ next = σ.nextSid + 1 ∧ ¬ HoldsC σ.srv lock c.id c.sid)
    (hnd : (srv.nodes.map (·.1)).Nodup) (hfind : srv.find? lock = σ.srv.find? lock)
    (hmono : ∀ {id : String} {sid : Sid}, HoldsC σ.srv lock id sid → HoldsC srv lock id sid)
    (hok : ClientOK srv lock c') :
    Inv ids lock { σ with srv := srv, nextSid := next, clients := setClient σ.clients i c', told := told } := by
  have hget : ∀ {j : Nat} {x : Client}, (σ.clients.set i c')[j]? = some x → (j = i ∧ x = c') ∨ (j ≠ i ∧ σ.clients[j]? = some x) :=
    List.getElem?_set_cases
  -- a fresh session id is above every old one
  have hfresh : ∀ {k : Nat} {y : Client}, σ.clients[k]? = some y → c'.sid = y.sid → i = k := by
    intro k y hk hxy
    rcases hsid with ⟨h1, _⟩ | ⟨h1, _⟩
    · exact hc.sid_inj _ _ _ _ hi hk (h1 ▸ hxy)
    · exact absurd (hxy ▸ h1 ▸ hc.sid_lt k y hk) (Nat.lt_irrefl _)
  refine ⟨⟨hc.lock_eq, hc.lock_ne, ?_, hc.ids_nd, hnd, ?_, ?_, ?_⟩, ?_⟩
  · exact (List.map_set_of_eq hi hid).trans hc.ids_eq
  · intro j x hj
    show x.sid < next
    rcases hsid with ⟨h1, h2⟩ | ⟨h1, h2, _⟩ <;> rcases hget hj with ⟨_, rfl⟩ | ⟨_, hj'⟩
    · rw [h1, h2]; exact hc.sid_lt i c hi
    · rw [h2]; exact hc.sid_lt j x hj'
    · rw [h1, h2]; exact Nat.lt_succ_self _
    · rw [h2]; exact Nat.lt_succ_of_lt (hc.sid_lt j x hj')
  · intro j k x y hj hk hxy
    rcases hget hj with ⟨hji, hx⟩ | ⟨_, hj'⟩ <;> rcases hget hk with ⟨hki, hy⟩ | ⟨_, hk'⟩
    · rw [hji, hki]
    · exact hji.trans (hfresh hk' (hx ▸ hxy))
    · exact (hki.trans (hfresh hj' (hy ▸ hxy.symm))).symm
    · exact hc.sid_inj _ _ _ _ hj' hk' hxy
  · intro n hf
    obtain ⟨j, cj, hj, hh⟩ := hc.owner n (hfind ▸ hf)
    by_cases hji : j = i
    · subst hji
      rw [hi] at hj; cases hj
      rcases hsid with ⟨h1, _⟩ | ⟨_, _, hnot⟩
      · exact ⟨j, c', List.getElem?_set_self_of_some hi, by rw [hid, h1]; exact hmono hh⟩
      · exact absurd hh hnot
    · exact ⟨j, cj, (List.getElem?_set_ne (Ne.symm hji)).trans hj, hmono hh⟩
  · intro j x hj
    rcases hget hj with ⟨_, rfl⟩ | ⟨hji, hj'⟩
    · exact hok
    · exact (ho j x hji hj').mono hmono

theorem update_client {σ : Sys} {i : Nat} {c : Client} {cache : Option Int} {prog : Option (Prog Res)} {acq : Bool}
    {told : List (Nat × Bool)} (hc : Core ids lock σ) (ho : OthersOK lock σ i) (hi : σ.clients[i]? = some c)
    (hok : ClientOK σ.srv lock { c with cache := cache, prog := prog, acquiring := acq }) :
    Inv ids lock { σ with clients := setClient σ.clients i { c with cache := cache, prog := prog, acquiring := acq },
                          told := told } :=
  inv_update hc ho hi rfl (Or.inl ⟨rfl, rfl⟩) hc.nd rfl id hok

theorem Inv.now_told {σ : Sys} (h : Inv ids lock σ) (now : Int) (told : List (Nat × Bool)) :
    Inv ids lock { σ with now := now, told := told } :=
  ⟨{ h.core with }, h.ok⟩

/-- the pending primitive of a client and what it goes on with: the four program points with a call -/
inductive Pending (s : Server) (lock : Path) (id : String) (sid : Sid) (acq : Bool) : Prim → (Resp → Prog Res) → Prop
  | acqGet : Pending s lock id sid acq (.get lock) (kAcq lock id)
  | acqCreate : Pending s lock id sid acq (.create lock id true) kCre
  | relGet (n : Nat) (hacq : acq = false) : Pending s lock id sid acq (.get lock) (kRel lock id n)
  | relDel (n : Nat) (ver : Int) (hacq : acq = false) (hh : HoldsC s lock id sid) :
      Pending s lock id sid acq (.delete lock ver) (kDel lock id n)

theorem ProgShape.call {s : Server} {id : String} {sid : Sid} {acq : Bool} {p : Prim} {k : Resp → Prog Res}
    (h : ProgShape s lock id sid acq (some (.call p k))) : Pending s lock id sid acq p k := by
  simp only [ProgShape, PureShape, Option.some.injEq, Prog.call.injEq, reduceCtorEq, false_or] at h
  rcases h with (⟨rfl, rfl⟩ | ⟨rfl, rfl⟩ | ⟨n, ⟨rfl, rfl⟩, ha⟩) | ⟨n, ver, ⟨rfl, rfl⟩, ha, hh⟩
  · exact .acqGet
  · exact .acqCreate
  · exact .relGet n ha
  · exact .relDel n ver ha hh

theorem PureShape.idle {id : String} {acq : Bool} : PureShape lock id acq none := Or.inl rfl

theorem PureShape.acqGet {id : String} {acq : Bool} : PureShape lock id acq (some (.call (.get lock) (kAcq lock id))) :=
  Or.inr (Or.inr (Or.inl rfl))

theorem PureShape.acqCreate {id : String} {acq : Bool} :
    PureShape lock id acq (some (.call (.create lock id true) kCre)) :=
  Or.inr (Or.inr (Or.inr (Or.inl rfl)))

theorem PureShape.release {id : String} {acq : Bool} (hacq : acq = false) (n : Nat) :
    PureShape lock id acq (some (opRelease lock id n)) := by
  cases n with
  | zero => exact Or.inr (Or.inl rfl)
  | succ m => exact Or.inr (Or.inr (Or.inr (Or.inr ⟨m, rfl, hacq⟩)))

/-- what `settle` needs of the program `p` that client `c` goes on with: the answer `true` only for the holder, a
pending primitive only at a program point -/
def Safe (s : Server) (lock : Path) (c : Client) (p : Prog Res) : Prop :=
  (p = .ret (.bool true) → HoldsC s lock c.id c.sid) ∧
  ∀ q k, p = .call q k → ProgShape s lock c.id c.sid c.acquiring (some p)

theorem inv_settle {σ : Sys} {i : Nat} {c : Client} {p : Prog Res}
    (hc : Core ids lock σ) (ho : OthersOK lock σ i) (hi : σ.clients[i]? = some c) (hcache : c.cache = none)
    (hs : Safe σ.srv lock c p) : Inv ids lock (settle σ i c p) := by
  rcases settle_cases σ i c p with ⟨hp, e⟩ | e | ⟨⟨q, k, hp⟩, e⟩
  · rw [e]; exact update_client hc ho hi ⟨fun _ => ⟨rfl, hs.1 hp⟩, Or.inl .idle⟩
  · rw [e]; exact update_client hc ho hi ⟨fun h => absurd hcache h, Or.inl .idle⟩
  · rw [e]; exact update_client hc ho hi ⟨fun h => absurd hcache h, hs.2 q k hp⟩

theorem safe_ret {s : Server} {c : Client} {x : Res} (hx : x = .bool true → HoldsC s lock c.id c.sid) :
    Safe s lock c (.ret x) :=
  ⟨fun e => hx (Prog.ret.inj e), fun _ _ e => nomatch e⟩

theorem safe_pure {s : Server} {c : Client} {p : Prog Res} (h : PureShape lock c.id c.acquiring (some p)) :
    Safe s lock c p :=
  ⟨fun e => by simp [PureShape, e] at h, fun _ _ _ => Or.inl h⟩

theorem safe_err {s0 s : Server} {c : Client} {p : Prim} {k : Resp → Prog Res}
    (h : ProgShape s0 lock c.id c.sid c.acquiring (some (.call p k))) (e : Err) : Safe s lock c (k (.err e)) := by
  cases h.call with
  | acqGet =>
    rw [kAcq_err]
    split
    · exact safe_pure .acqCreate
    · exact safe_ret nofun
  | acqCreate => exact safe_ret (x := .bool false) nofun
  | relGet n hacq =>
    rw [kRel_err]
    split
    · exact safe_pure (.release hacq n)
    · exact safe_ret nofun
  | relDel n ver hacq =>
    rw [kDel_err]
    split
    · exact safe_pure (.release hacq n)
    · exact safe_ret nofun

theorem Core.with_srv {σ : Sys} (hc : Core ids lock σ) {srv' : Server} (hnd : (srv'.nodes.map (·.1)).Nodup)
    (howner : ∀ n, srv'.find? lock = some n → ∃ (j : Nat) (c : Client), σ.clients[j]? = some c ∧ HoldsC srv' lock c.id c.sid) :
    Core ids lock { σ with srv := srv' } :=
  { hc with nd := hnd, owner := howner }

theorem core_create {σ : Sys} {i : Nat} {c : Client} (h : Inv ids lock σ)
    (hi : σ.clients[i]? = some c) (hlive : c.sid ∈ σ.srv.live) (hf : σ.srv.find? lock = none) (n : ZNode)
    (hd : n.data = c.id) (hown : n.owner = c.sid) :
    Core ids lock { σ with srv := σ.srv.put lock n } ∧ OthersOK lock { σ with srv := σ.srv.put lock n } i ∧
    HoldsC (σ.srv.put lock n) lock c.id c.sid := by
  have hh : HoldsC (σ.srv.put lock n) lock c.id c.sid :=
    ⟨_, find?_put_self _ _ _, hd, hown, by rw [put_live]; exact hlive⟩
  refine ⟨h.core.with_srv (nodup_put h.core.nd _ _) (fun _ _ => ⟨i, c, hi, hh⟩), ?_, hh⟩
  intro j cj _ hj
  refine (h.ok j cj hj).mono (fun hhj => ?_)
  obtain ⟨m, hfm, _⟩ := hhj
  rw [hf] at hfm; cases hfm

theorem core_erase {σ : Sys} {i : Nat} {c : Client} (h : Inv ids lock σ)
    (hi : σ.clients[i]? = some c) (hh : HoldsC σ.srv lock c.id c.sid) :
    Core ids lock { σ with srv := σ.srv.erase lock } ∧ OthersOK lock { σ with srv := σ.srv.erase lock } i := by
  have hc := h.core
  refine ⟨hc.with_srv ((List.filter_sublist.map _).nodup hc.nd)
    (fun n hfn => by rw [find?_erase_self] at hfn; cases hfn), ?_⟩
  intro j cj hji hj
  refine (h.ok j cj hj).mono (fun hhj => ?_)
  exact absurd (hc.holder_same hj hi hhj hh) hji

theorem srv_step {σ : Sys} {i : Nat} {c : Client} {p : Prim} {k : Resp → Prog Res}
    (h : Inv ids lock σ) (hi : σ.clients[i]? = some c)
    (hlive : c.sid ∈ σ.srv.live) (hshape : ProgShape σ.srv lock c.id c.sid c.acquiring (some (.call p k))) :
    Core ids lock { σ with srv := (σ.srv.step c.sid p).1 } ∧
    OthersOK lock { σ with srv := (σ.srv.step c.sid p).1 } i ∧
    Safe (σ.srv.step c.sid p).1 lock c (k (σ.srv.step c.sid p).2) := by
  have hc := h.core
  have ho := h.ok.others i
  cases hshape.call with
  | acqGet =>
    cases hf : σ.srv.find? lock with
    | none =>
      rw [step_get_none c.sid hc.lock_ne hf]
      exact ⟨hc, ho, safe_pure .acqCreate⟩
    | some n =>
      rw [step_get_some c.sid hf]
      exact ⟨hc, ho, safe_ret fun e => hc.holds_of_data hi hf (by simpa using e)⟩
  | acqCreate =>
    generalize hx : σ.srv.step c.sid (.create lock c.id true) = x
    cases step_created hx with
    | ok _ hf =>
      obtain ⟨hc1, ho1, hh⟩ := core_create h hi hlive hf
        { data := c.id, version := 0, owner := if true = true then c.sid else 0 } rfl rfl
      exact ⟨hc1, ho1, safe_ret fun _ => hh⟩
    | exists_ | noParent | ephParent => exact ⟨hc, ho, safe_ret (x := .bool false) nofun⟩
  | relGet m hacq =>
    cases hf : σ.srv.find? lock with
    | none =>
      rw [step_get_none c.sid hc.lock_ne hf]
      exact ⟨hc, ho, safe_ret (x := .done) nofun⟩
    | some n =>
      rw [step_get_some c.sid hf]
      refine ⟨hc, ho, ?_⟩
      by_cases hd : n.data = c.id
      · simp only [kRel, hd, beq_self_eq_true, if_true]
        exact ⟨fun e => (nomatch e), fun _ _ _ => Or.inr ⟨_, _, rfl, hacq, hc.holds_of_data hi hf hd⟩⟩
      · simp only [kRel, beq_iff_eq, hd, if_false]
        exact safe_ret nofun
  | relDel m ver hacq hh =>
    generalize hx : σ.srv.step c.sid (.delete lock ver) = x
    cases step_deleted hx with
    | ok =>
      obtain ⟨hc1, ho1⟩ := core_erase h hi hh
      exact ⟨hc1, ho1, safe_ret (x := .done) nofun⟩
    | noNode | badVersion | notEmpty => exact ⟨hc, ho, safe_err hshape _⟩

theorem holdsC_expire {s : Server} (nd : (s.nodes.map (·.1)).Nodup) {x : Sid} {id : String} {sid : Sid}
    (hh : HoldsC s lock id sid) (hne : sid ≠ x) : HoldsC (s.expire x) lock id sid := by
  obtain ⟨n, hf, hd, hown, hl⟩ := hh
  refine ⟨n, ?_, hd, hown, ?_⟩
  · rw [find?_expire _ _ _ nd, hf]; simp [Option.filter, hown, hne]
  · simp [Server.expire, hl, hne]

/-- guarded session expiry (`expire`: no operation in flight; `expireAcq`: possibly an AcquireLock in flight — all that
matters is that the client is not at the `delete` of a ReleaseLock, the one program point that needs the session) -/
theorem inv_expire {σ : Sys} {i : Nat} {c : Client}
    (h : Inv ids lock σ) (hi : σ.clients[i]? = some c)
    (hcache : c.cache = none) (hprog : c.prog = none ∨ c.acquiring = true) :
    Inv ids lock { σ with srv := σ.srv.expire c.sid } := by
  have hc := h.core
  refine ⟨hc.with_srv ((List.filter_sublist.map _).nodup hc.nd) ?_,
    OthersOK.all (i := i) ?_ hi ((h.ok i c hi).detached (Or.inl ⟨hcache, hprog⟩) _)⟩
  · -- a lock znode that is left belongs to another session
    intro n hfn
    rw [find?_expire _ _ _ hc.nd, Option.filter_eq_some_iff, bne_iff_ne] at hfn
    obtain ⟨j, cj, hj, hh⟩ := hc.owner n hfn.1
    obtain ⟨m', hfm, _, hown, _⟩ := id hh
    rw [hfn.1] at hfm; cases hfm
    exact ⟨j, cj, hj, holdsC_expire hc.nd hh (by rw [← hown]; exact hfn.2)⟩
  · intro j cj hji hj
    exact (h.ok j cj hj).mono (fun hh => holdsC_expire hc.nd hh (fun e => hji (hc.sid_inj _ _ _ _ hj hi e)))

theorem inv_step {σ : Sys} (h : Inv ids lock σ)
    (st : Step) (hg : st.guarded = true) : Inv ids lock (step σ st) := by
  have hc := h.core
  rcases step_fires σ st with e | f
  · rw [e]; exact h
  generalize step σ st = σ' at f
  cases f with
  | tick d => exact h.now_told _ _
  | cached => exact h.now_told _ _
  | acquire hi =>
    refine update_client hc (h.ok.others _) hi ⟨fun hne => absurd rfl hne, ?_⟩
    rw [hc.lock_eq]
    exact Or.inl .acqGet
  | release hi =>
    refine update_client hc (h.ok.others _) hi ⟨fun hne => absurd rfl hne, ?_⟩
    rw [hc.lock_eq]
    exact Or.inl (.release rfl _)
  | prim hi hprog hl =>
    obtain ⟨hcache, hshape⟩ := (h.ok _ _ hi).pending hprog
    obtain ⟨hc1, ho1, hsafe⟩ := srv_step h hi hl hshape
    exact inv_settle hc1 ho1 hi hcache hsafe
  | primLost hi hprog hl =>
    obtain ⟨hcache, hshape⟩ := (h.ok _ _ hi).pending hprog
    obtain ⟨hc1, ho1, _⟩ := srv_step h hi hl hshape
    exact inv_settle hc1 ho1 hi hcache (safe_err hshape _)
  | primLostRetry hi hprog hl ha =>
    -- the request will be sent again: the client stays where it is, in an AcquireLock
    obtain ⟨hcache, hshape⟩ := (h.ok _ _ hi).pending hprog
    obtain ⟨hc1, ho1, _⟩ := srv_step h hi hl hshape
    exact ⟨hc1, ho1.all hi ((h.ok _ _ hi).detached (Or.inl ⟨hcache, Or.inr ha⟩) _)⟩
  | fail e hi hprog =>
    obtain ⟨hcache, hshape⟩ := (h.ok _ _ hi).pending hprog
    exact inv_settle hc (h.ok.others _) hi hcache (safe_err hshape e)
  | event hi =>
    exact update_client hc (h.ok.others _) hi ⟨fun hne => absurd rfl hne, (h.ok _ _ hi).2⟩
  | expire hi hcache hprog => exact inv_expire h hi hcache (Or.inl hprog)
  | expireAcq hi hcache hprog => exact inv_expire h hi hcache hprog
  | expireAny => cases hg
  | @reconnect i c hi hd =>
    have hnot : ¬ HoldsC σ.srv lock c.id c.sid := fun ⟨_, _, _, _, hl⟩ => hd hl
    exact inv_update hc (h.ok.others _) hi rfl (Or.inr ⟨rfl, rfl, hnot⟩) hc.nd rfl
      (fun ⟨n, hf, hd, hown, hl⟩ => ⟨n, hf, hd, hown, List.mem_cons_of_mem _ hl⟩) ((h.ok _ _ hi).detached (Or.inr hnot) _)

theorem inv_run {σ : Sys} (h : Inv ids lock σ)
    (steps : List Step) (hg : ∀ st ∈ steps, st.guarded = true) : Inv ids lock (run σ steps) :=
  List.foldlRecOn steps _ h fun _ hσ st hst => inv_step hσ st (hg st hst)

theorem init_client {ttl : Int} {parents : List (Path × ZNode)} {i : Nat} {c : Client}
    (h : (init ids lock ttl parents).clients[i]? = some c) : i < ids.length ∧ ∃ id, c = { id := id, sid := i + 1 } := by
  simp only [init, List.getElem?_map, List.getElem?_zipIdx, Option.map_map, Option.map_eq_some_iff] at h
  obtain ⟨id, hid, rfl⟩ := h
  exact ⟨(List.getElem?_eq_some_iff.1 hid).1, id, by simp⟩

theorem inv_init {parents : List (Path × ZNode)} (hids : ids.Nodup) (hne : lock ≠ [])
    (hnl : ∀ pn ∈ parents, pn.1 ≠ lock) (hnd : (parents.map (·.1)).Nodup) (ttl : Int) :
    Inv ids lock (init ids lock ttl parents) := by
  have hf : (init ids lock ttl parents).srv.find? lock = none :=
    find?_none_iff.2 fun n hn => hnl _ hn rfl
  refine ⟨⟨rfl, hne, ?_, hids, hnd, ?_, ?_, ?_⟩, ?_⟩
  · simp [init, Function.comp_def]
  · intro i c hi
    obtain ⟨hlt, _, rfl⟩ := init_client hi
    exact Nat.succ_lt_succ hlt
  · intro i j ci cj hi hj hij
    obtain ⟨_, _, rfl⟩ := init_client hi
    obtain ⟨_, _, rfl⟩ := init_client hj
    exact Nat.succ.inj hij
  · intro n hfn
    rw [hf] at hfn; cases hfn
  · intro i c hi
    obtain ⟨_, _, rfl⟩ := init_client hi
    exact ⟨fun hne => absurd rfl hne, Or.inl .idle⟩

end LockLemmas
