/-
Facts about a guarded early return `if c then a else rest` that is known to have a certain value: they walk down a
gating cascade in a hypothesis one guard at a time, touching only its head (`split at h` simplifies the whole
remaining cascade again at every guard).
-/

namespace Guard

theorem cases {α} {c : Prop} [Decidable c] {a x b : α} (h : (if c then a else x) = b) :
    c ∧ a = b ∨ ¬ c ∧ x = b := by
  by_cases hc : c
  · rw [if_pos hc] at h; exact Or.inl ⟨hc, h⟩
  · rw [if_neg hc] at h; exact Or.inr ⟨hc, h⟩

theorem of_ne {α} {c : Prop} [Decidable c] {a x b : α} (hne : a ≠ b) (h : (if c then a else x) = b) :
    ¬ c ∧ x = b :=
  (cases h).resolve_left fun ⟨_, e⟩ => hne e

end Guard
