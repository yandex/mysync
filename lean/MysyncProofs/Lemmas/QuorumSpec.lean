/-
QuorumSpec — the specification of the GENERATED quorum arithmetic, in a fixed normal form.

`MysyncModel/Generated/SwitchHelper.lean` is re-translated from the Go source on every run, so the SHAPE of
its definitions (`min`/`max` versus explicit `if`, early returns, order of the branches) follows whatever the
maintainers wrote.  This is the ONLY proof file that unfolds the four generated definitions; every other proof
rewrites with the lemmas below and then does arithmetic on the normal form.  The proof scripts here do not
depend on the shape (case split on every `if`/`min`/`max`, then linear arithmetic), so a behaviour-preserving
rewrite of the Go code leaves the whole development untouched, while a change of the arithmetic breaks
this file.
-/
import MysyncModel.Generated.SwitchHelper
import MysyncProofs.Lemmas.ShapeFree

namespace QuorumSpec
open Gen.SwitchHelper

/-- truncated division by two of a length is the floor division `omega` understands -/
theorem tdiv2 (n : Nat) : Int.tdiv (n : Int) 2 = (n : Int) / 2 :=
  Int.tdiv_eq_ediv_of_nonneg (Int.natCast_nonneg n)

/-- acknowledgements demanded from the master: half the list (rounded down), capped by the configured count -/
theorem req_spec (sh : SwitchHelper) (l : List String) :
    GetRequiredWaitSlaveCount sh l
      = min (Int.tdiv (l.length : Int) 2) sh.rplSemiSyncMasterWaitForSlaveCount := by
  unfold GetRequiredWaitSlaveCount
  (try simp only [tdiv2])
  shape_free

/-- failover quorum: the list minus the demanded count, at least one -/
theorem quorum_spec (sh : SwitchHelper) (l : List String) :
    GetFailoverQuorum sh l = max ((l.length : Int) - GetRequiredWaitSlaveCount sh l) 1 := by
  unfold GetFailoverQuorum
  -- (the right-hand side mentions the other generated definition: bring it to its normal form first — the left-hand
  -- side may or may not go through it, depending on how the Go code is factored)
  simp only [req_spec, tdiv2]
  shape_free

/-- the check passes iff (semi-sync) the quorum is met, or (async) some replica is permissible -/
theorem check_spec (sh : SwitchHelper) (l : List String) (p : Int) :
    CheckFailoverQuorum sh l p = none
      ↔ (if sh.SemiSync = true then GetFailoverQuorum sh l ≤ p else p ≠ 0) := by
  unfold CheckFailoverQuorum
  simp only [quorum_spec, req_spec, tdiv2]
  shape_free

theorem check_spec_semi (sh : SwitchHelper) (l : List String) (p : Int) (hs : sh.SemiSync = true) :
    CheckFailoverQuorum sh l p = none ↔ GetFailoverQuorum sh l ≤ p := by
  rw [check_spec, if_pos hs]

theorem check_spec_async (sh : SwitchHelper) (l : List String) (p : Int) (hs : sh.SemiSync = false) :
    CheckFailoverQuorum sh l p = none ↔ p ≠ 0 := by
  rw [check_spec, if_neg (by simp [hs])]

/-- `isNone` form, as used by the application model -/
theorem check_isNone (sh : SwitchHelper) (l : List String) (p : Int) :
    (CheckFailoverQuorum sh l p).isNone = true
      ↔ (if sh.SemiSync = true then GetFailoverQuorum sh l ≤ p else p ≠ 0) := by
  rw [Option.isNone_iff_eq_none, check_spec]

/-- `isSome` form (the error case; the message itself is not specified) -/
theorem check_isSome (sh : SwitchHelper) (l : List String) (p : Int) :
    (CheckFailoverQuorum sh l p).isSome = true
      ↔ (if sh.SemiSync = true then p < GetFailoverQuorum sh l else p = 0) := by
  rw [← Option.not_isNone, Bool.not_eq_true', ← Bool.not_eq_true, check_isNone]
  split <;> omega

/-- the optimization phase is allowed exactly under semi-sync -/
theorem opt_spec (sh : SwitchHelper) : IsOptimizationPhaseAllowed sh = sh.SemiSync := by
  unfold IsOptimizationPhaseAllowed
  shape_free

end QuorumSpec
