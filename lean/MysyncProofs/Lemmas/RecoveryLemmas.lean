/-
Lemmas for C11 and C20: `checkRecovery` by cases (`checkRecovery_cases`: the timer bookkeeping followed by one of four
verdicts), its two verdicts on a marked replica as equations (`clear_of_clean`, `resetup_char`), what `setRecovery` writes.
-/
import MysyncModel.App.Recovery

namespace RecoveryLemmas
open NS Gtid Recovery

/-- the timer bookkeeping that precedes the verdict (`t1` in the model) -/
def timerActs (i : In) : List Act :=
  if i.stuck == .yes then (if i.stuckTimer.isNone then [.setStuckTimer] else []) else [.cleanStuckTimer]

theorem timerActs_mem (i : In) (a : Act) (h : a ∈ timerActs i) : a = .setStuckTimer ∨ a = .cleanStuckTimer := by
  unfold timerActs at h
  split at h
  · split at h
    · simp at h; exact Or.inl h
    · simp at h
  · simp at h; exact Or.inr h

/-- the guards under which the mark is cleared -/
structure Clean (i : In) (st : ReplState) (ex mg m : String) : Prop where
  marked : i.marked = true
  noResetup : i.resetupFile = false
  readOnly : i.readOnly = some true
  status : i.status = .replica st ex
  mgtid : i.mgtid = some mg
  master : i.master = some m
  updateHostsOk : i.updateHostsOk = true
  masterRegistered : i.masterRegistered = true
  notLost : permanentlyLost st ex mg = false
  notStuck : ¬ ((i.stuck == .yes && m != i.localHost) = true)

theorem checkRecovery_cases (i : In) :
    checkRecovery i = [] ∨ ∃ tail, checkRecovery i = timerActs i ++ tail ∧
      (tail = [] ∨ tail = [.writeResetup, .cleanStuckTimer] ∨ tail = [.writeResetup] ∨
        (tail = [.clearRecovery i.clearOk] ∧ ∃ st ex mg m, Clean i st ex mg m)) := by
  fun_cases checkRecovery i
  -- the seven exits before anything is done
  iterate 7 exact Or.inl rfl
  -- from here on the model's timer bookkeeping `t1` is `timerActs i`
  case case10 => exact Or.inr ⟨_, rfl, Or.inr (Or.inl rfl)⟩
  case case13 => exact Or.inr ⟨_, rfl, Or.inr (Or.inr (Or.inl rfl))⟩
  case case16 hm hf m hma hu hr mg hg stuck t1 hstk st ex hpl hro _ _ hs =>
    refine Or.inr ⟨_, rfl, Or.inr (Or.inr (Or.inr ⟨rfl, st, ex, mg, m, ?_, ?_, hro, hs, hg, hma, ?_, ?_, ?_, hstk⟩))⟩
    · simpa using hm
    · simpa using hf
    · simpa using hu
    · simpa using hr
    · simpa using hpl
  all_goals exact Or.inr ⟨[], (List.append_nil _).symm, Or.inl rfl⟩

theorem clear_char (i : In) (ok : Bool) (h : Act.clearRecovery ok ∈ checkRecovery i) :
    checkRecovery i = timerActs i ++ [.clearRecovery i.clearOk] ∧ ∃ st ex mg m, Clean i st ex mg m := by
  rcases checkRecovery_cases i with h0 | ⟨tail, he, ht⟩
  · rw [h0] at h; cases h
  rw [he] at h ⊢
  rcases List.mem_append.mp h with h | h
  · rcases timerActs_mem i _ h with h | h <;> cases h
  rcases ht with rfl | rfl | rfl | ⟨rfl, hg⟩
  · cases h
  · simp at h
  · simp at h
  · exact ⟨rfl, hg⟩

theorem clear_of_clean {i : In} {st : ReplState} {ex mg m : String} (c : Clean i st ex mg m) :
    checkRecovery i = timerActs i ++ [.clearRecovery i.clearOk] := by
  unfold checkRecovery
  simp only [← timerActs.eq_1]
  have hne : (LocalStatus.replica st ex == LocalStatus.notReplica) = false := by simp
  simp only [c.marked, c.noResetup, c.status, c.master, c.updateHostsOk, c.masterRegistered, c.mgtid, hne, c.notLost,
    c.readOnly, if_neg c.notStuck]
  simp

theorem permanentlyLost_false {st : ReplState} {ex mg : String} (h : permanentlyLost st ex mg = false) :
    st ≠ .error ∧ isSlaveBehindOrEqual (parseD ex) (parseD mg) = true := by
  unfold permanentlyLost isSlaveAhead at h
  simp only [Bool.or_eq_false_iff, Bool.not_eq_false'] at h
  refine ⟨?_, h.2⟩
  intro he
  rw [he] at h
  exact absurd h.1 (by decide)

theorem permanentlyLost_true {st : ReplState} {ex mg : String}
    (h : st = .error ∨ isSlaveAhead (parseD ex) (parseD mg) = true) : permanentlyLost st ex mg = true := by
  unfold permanentlyLost
  rcases h with h | h
  · subst h; rfl
  · rw [h]; simp

/-- the verdict for a marked replica that is ahead of the master or in error -/
theorem resetup_char (i : In) (st : ReplState) (ex mg master : String)
    (hm : i.marked = true) (hf : i.resetupFile = false) (hs : i.status = .replica st ex) (hma : i.master = some master)
    (hu : i.updateHostsOk = true) (hr : i.masterRegistered = true) (hg : i.mgtid = some mg) (hst : i.stuck ≠ .yes)
    (hbad : permanentlyLost st ex mg = true) :
    checkRecovery i = [.cleanStuckTimer, .writeResetup] := by
  have hst' : (i.stuck == Stuck.yes) = false := by simpa using hst
  unfold checkRecovery
  simp [hm, hf, hs, hma, hu, hr, hg, hst', hbad]

theorem setRecovery_writes (active : List String) (host : String) (setOk markOk : Bool) :
    (setRecovery (some active) host setOk markOk).1 =
      if setOk then [.setActiveNodes (active.filter (· != host)), .createRecoveryMark host]
      else [.setActiveNodes (active.filter (· != host))] := by
  unfold setRecovery
  cases setOk <;> simp

end RecoveryLemmas
