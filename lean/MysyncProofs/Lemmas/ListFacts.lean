/-
Facts about plain lists that core does not state: counting in duplicate-free lists (beside core's
`List.Nodup.length_le_of_subset`), `eraseDups` as the model's duplicate test, folds whose step returns one of its two
arguments or files each element under one of two lists, where an element sits in an append, `set` at an index.
Core Lean only.
-/

namespace List

theorem two_le_length_of_mem_ne {α : Type _} {l : List α} {a b : α} (ha : a ∈ l) (hb : b ∈ l) (hab : a ≠ b) :
    2 ≤ l.length := by
  match l, ha, hb with
  | [x], ha, hb => exact absurd ((mem_singleton.mp ha).trans (mem_singleton.mp hb).symm) hab
  | _ :: _ :: _, _, _ => simp

theorem Nodup.length_le_one_of_forall_eq {α : Type _} {l : List α} {m : α} (hnd : l.Nodup)
    (hall : ∀ x ∈ l, x = m) : l.length ≤ 1 :=
  hnd.length_le_of_subset (l₂ := [m]) fun x hx => mem_singleton.2 (hall x hx)

theorem Nodup.length_add_le_of_disjoint {α : Type _} {l F B : List α} (hF : F.Nodup) (hB : B.Nodup)
    (hFl : F ⊆ l) (hBl : B ⊆ l) (hd : ∀ f ∈ F, f ∉ B) : F.length + B.length ≤ l.length := by
  rw [← length_append]
  exact (nodup_append.mpr ⟨hF, hB, fun a ha b hb hab => hd a ha (hab ▸ hb)⟩).length_le_of_subset
    (append_subset.mpr ⟨hFl, hBl⟩)

theorem subset_of_nodup_of_length_le {α : Type _} [DecidableEq α] {l1 l2 : List α} (hn : l1.Nodup)
    (hsub : l1 ⊆ l2) (hlen : l2.length ≤ l1.length) : l2 ⊆ l1 := by
  intro a ha
  apply Classical.byContradiction
  intro hna
  -- otherwise `l1` fits into `l2` with `a` erased, which is shorter
  have := hn.length_le_of_subset (l₂ := l2.erase a) fun x hx =>
    (mem_erase_of_ne (by rintro rfl; exact hna hx)).mpr (hsub hx)
  have := length_erase_of_mem ha
  have := length_pos_of_mem ha
  omega

theorem eraseDups_sublist {α : Type _} [BEq α] (A : List α) : A.eraseDups.Sublist A := by
  induction h : A.length using Nat.strongRecOn generalizing A with
  | _ n ih =>
    cases A with
    | nil => exact .refl _
    | cons a as =>
      subst h
      rw [eraseDups_cons]
      exact ((ih _ (Nat.lt_succ_of_le (length_filter_le _ _)) _ rfl).trans filter_sublist).cons_cons a

/-- the model's duplicate test `l.eraseDups.length = l.length` -/
theorem nodup_of_eraseDups_length {α : Type _} [BEq α] [LawfulBEq α] :
    ∀ A : List α, A.eraseDups.length = A.length → A.Nodup
  | [], _ => nodup_nil
  | a :: as, h => by
    rw [eraseDups_cons, length_cons, length_cons, Nat.add_right_cancel_iff] at h
    -- nothing was filtered out, so `a` does not occur in `as`
    have h1 := (eraseDups_sublist (as.filter fun b => !b == a)).length_le
    have h5 := length_filter_eq_length_iff.mp (Nat.le_antisymm (length_filter_le _ _) (h ▸ h1))
    rw [filter_eq_self.mpr h5] at h
    exact nodup_cons.mpr ⟨fun hmem => by simpa using h5 a hmem, nodup_of_eraseDups_length as h⟩

theorem reverse_induction {α : Type _} {P : List α → Prop} (nil : P [])
    (snoc : ∀ l a, P l → P (l ++ [a])) (l : List α) : P l := by
  rw [← reverse_reverse l]
  induction l.reverse with
  | nil => exact nil
  | cons a r ih => rw [reverse_cons]; exact snoc _ _ ih

/-- A fold whose step keeps one of its two arguments stays inside any class `U` of candidates, and a
relation `R r p` ("the running choice `r` accounts for `p`") that every step preserves and establishes
for the element just scanned holds between the result and every scanned element. -/
theorem foldl_select {α : Type _} {f : α → α → α} (hf : ∀ a q, f a q = a ∨ f a q = q)
    {U : α → Prop} {R : α → α → Prop}
    (keep : ∀ a q p, U a → U q → R a p → R (f a q) p) (new : ∀ a q, U a → U q → R (f a q) q)
    (l : List α) : ∀ a, U a → (∀ q ∈ l, U q) →
      U (l.foldl f a) ∧ (∀ p, R a p → R (l.foldl f a) p) ∧ ∀ p ∈ l, R (l.foldl f a) p := by
  induction l with
  | nil => exact fun a ha _ => ⟨ha, fun _ h => h, fun _ h => nomatch h⟩
  | cons x xs ih =>
    intro a ha hl
    have hx := hl x mem_cons_self
    have hU : U (f a x) := by rcases hf a x with e | e <;> rw [e] <;> assumption
    obtain ⟨i1, i2, i3⟩ := ih (f a x) hU fun q hq => hl q (mem_cons_of_mem _ hq)
    refine ⟨i1, fun p h => i2 p (keep a x p ha hx h), fun p hp => ?_⟩
    rcases mem_cons.1 hp with rfl | hp
    · exact i2 _ (new a _ ha hx)
    · exact i3 p hp

theorem foldl_select_mem {α : Type _} {f : α → α → α} (hf : ∀ a q, f a q = a ∨ f a q = q)
    (a : α) (l : List α) : l.foldl f a ∈ a :: l :=
  (foldl_select hf (U := (· ∈ a :: l)) (R := fun _ _ => True) (fun _ _ _ _ _ _ => trivial)
    (fun _ _ _ _ => trivial) l a mem_cons_self fun _ hq => mem_cons_of_mem _ hq).1

theorem foldl_select_all {α : Type _} {f : α → α → α} (hf : ∀ a q, f a q = a ∨ f a q = q)
    {U : α → Prop} {R : α → α → Prop}
    (keep : ∀ a q p, U a → U q → R a p → R (f a q) p) (new : ∀ a q, U a → U q → R (f a q) q)
    (a : α) (l : List α) (hU : ∀ q ∈ a :: l, U q) (refl : R a a) : ∀ p ∈ a :: l, R (l.foldl f a) p := by
  obtain ⟨_, h2, h3⟩ := foldl_select hf keep new l a (hU a mem_cons_self)
    fun q hq => hU q (mem_cons_of_mem _ hq)
  intro p hp
  rcases mem_cons.1 hp with rfl | hp
  · exact h2 _ refl
  · exact h3 p hp

theorem foldl_filters {α : Type _} (g : α → Option Bool) (step : List α × List α → α → List α × List α)
    (hstep : ∀ acc a, step acc a =
      match g a with
      | some true => (acc.1 ++ [a], acc.2)
      | some false => (acc.1, acc.2 ++ [a])
      | none => acc) (l : List α) (acc : List α × List α) :
    l.foldl step acc = (acc.1 ++ l.filter (g · == some true), acc.2 ++ l.filter (g · == some false)) := by
  induction l generalizing acc with
  | nil => simp
  | cons a r ih =>
    rw [foldl_cons, ih, hstep]
    rcases hg : g a with _ | _ | _ <;> simp [hg]

theorem append_eq_split {α : Type _} {G R pre post : List α} {x : α} (hx : x ∉ G) (h : G ++ R = pre ++ x :: post) :
    ∃ f, pre = G ++ f ∧ R = f ++ x :: post := by
  rcases append_eq_append_iff.1 h with ⟨f, hf, hR⟩ | ⟨c, hG, hc⟩
  · exact ⟨f, hf, hR⟩
  · cases c with
    | nil => exact ⟨[], by rw [hG, append_nil, append_nil], hc.symm⟩
    | cons y c => cases hc; exact absurd (hG ▸ mem_append_right pre mem_cons_self) hx

theorem before_last {α : Type _} {l : List α} {a b : α} (hl : l.getLast? = some a) (hb : b ∈ l) (hne : b ≠ a) :
    ∃ pre post, l = pre ++ b :: post ∧ a ∈ post := by
  obtain ⟨ys, rfl⟩ := getLast?_eq_some_iff.1 hl
  obtain ⟨pre, post, rfl⟩ := append_of_mem ((mem_append.1 hb).resolve_right fun h => hne (mem_singleton.1 h))
  exact ⟨pre, post ++ [a], by rw [append_assoc, cons_append], mem_append_right _ mem_cons_self⟩

theorem forall_mem_ite_nil {α : Type _} {c : Prop} [Decidable c] {l : List α} {P : α → Prop} :
    (∀ s ∈ (if c then l else []), P s) ↔ (c → ∀ s ∈ l, P s) := by
  split <;> simp [*]

theorem getElem?_set_cases {α : Type _} {l : List α} {i j : Nat} {a x : α} (h : (l.set i a)[j]? = some x) :
    (j = i ∧ x = a) ∨ (j ≠ i ∧ l[j]? = some x) := by
  by_cases hij : i = j
  · subst hij
    rw [getElem?_set_self', Option.map_eq_map, Option.map_eq_some_iff] at h
    obtain ⟨_, _, h⟩ := h
    exact Or.inl ⟨rfl, h.symm⟩
  · rw [getElem?_set_ne hij] at h
    exact Or.inr ⟨fun e => hij e.symm, h⟩

theorem getElem?_set_self_of_some {α : Type _} {l : List α} {i : Nat} {a b : α} (h : l[i]? = some b) :
    (l.set i a)[i]? = some a := by
  rw [getElem?_set_self', h]; rfl

theorem map_set_of_eq {α β : Type _} {f : α → β} {l : List α} {i : Nat} {a b : α} (h : l[i]? = some b)
    (hf : f a = f b) : (l.set i a).map f = l.map f := by
  apply ext_getElem?
  intro j
  rw [map_set, getElem?_map]
  by_cases hj : i = j
  · subst hj; rw [getElem?_set_self', getElem?_map, h, hf]; rfl
  · rw [getElem?_set_ne hj, getElem?_map]

theorem dropLast_ne_self {α : Type _} {l : List α} (hl : l ≠ []) : l.dropLast ≠ l := by
  intro h
  have h1 := congrArg length h
  have h2 : 0 < l.length := length_pos_iff.2 hl
  rw [length_dropLast] at h1
  omega

theorem lookup_filter_ne {α β : Type _} [BEq α] [LawfulBEq α] (l : List (α × β)) {h x : α} (hx : x ≠ h) :
    (l.filter (·.1 != h)).lookup x = l.lookup x := by
  induction l with
  | nil => rfl
  | cons p l ih =>
    obtain ⟨k, v⟩ := p
    rw [filter_cons]
    split
    · rw [lookup_cons, lookup_cons, ih]
    · next hk =>
      -- the entry dropped has key `h`, which `x` does not match
      rw [ih, lookup_cons, show k = h by simpa using hk, beq_false_of_ne hx]

end List
