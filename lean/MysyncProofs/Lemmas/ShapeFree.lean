/- The closing script of the two specification files (why it must not name the goal's shape: header of QuorumSpec):
split every conditional of the goal, normalise, linear arithmetic. -/

macro "shape_free" : tactic =>
  `(tactic| (
    all_goals (repeat' split)
    all_goals (try simp_all)
    all_goals (try omega)))
