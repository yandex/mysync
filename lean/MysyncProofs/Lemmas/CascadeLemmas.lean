/- Lemmas for C16 (MysyncProofs/C16.lean): the predicates its statements use, what `findBestStreamFrom` can return
(`bsf_spec`, one induction along `bsfLoop`), and what a move by `repairCascade` looks like (`Move`,
`repairCascade_move`). -/
import MysyncModel.App.Cascade

namespace C16
open NS Cascade

/-- n-th configured ancestor of `self` along the stream_from chain -/
def anc (topo : Topology) (self : String) : Nat → String
  | 0 => self
  | n + 1 => streamFromOf topo (anc topo self n)

/-- "healthy" in the sense of `findBestStreamFrom` -/
def Healthy (reasonable : Int) (cs : ClusterState) (h : String) : Prop :=
  ∃ c, cs.get? h = some c ∧ c.pingOk = true ∧ c.isOffline = false ∧ reasonableLag reasonable c = true

/-- the replica is already streaming (running) from `src` -/
def Already (cs : ClusterState) (self src : String) : Prop :=
  ∃ me sl, cs.get? self = some me ∧ me.slave = some sl ∧ sl.state = .running ∧ sl.masterHost = src

end C16

namespace CascadeLemmas
open NS Gtid Cascade C16

theorem streamFromOf_mem {topo : Topology} {h : String} (hne : streamFromOf topo h ≠ "") :
    (h, streamFromOf topo h) ∈ topo := by
  fun_induction streamFromOf topo h
  case case1 => exact absurd rfl hne
  case case2 => exact List.mem_cons_self ..
  case case3 ih => exact List.mem_cons_of_mem _ (ih hne)

theorem streamFromOf_mem_vals {topo : Topology} {h : String} (hne : streamFromOf topo h ≠ "") :
    streamFromOf topo h ∈ topo.map (·.2) :=
  List.mem_map.mpr ⟨_, streamFromOf_mem hne, rfl⟩

theorem healthy_iff {reasonable : Int} {cs : ClusterState} {h : String} {c : NodeState} (hc : cs.get? h = some c) :
    Healthy reasonable cs h ↔ (c.pingOk && !c.isOffline && reasonableLag reasonable c) = true := by
  simp [Healthy, hc, and_assoc]

/-- Bool form of `Already` as it appears in `bsfLoop` -/
def alreadyB (cs : ClusterState) (self sf : String) : Bool :=
  match cs.get? self with
  | some me => (match me.slave with
    | some s => s.state == .running && s.masterHost == sf
    | none => false)
  | none => false

theorem alreadyB_iff (cs : ClusterState) (self sf : String) : alreadyB cs self sf = true ↔ Already cs self sf := by
  unfold alreadyB Already
  split
  · next me hme =>
    split
    · next s hs => simp [hme, hs]
    · next hs => simp [hme, hs]
  · next hn => simp [hn]

/-- What `findBestStreamFrom` can return: the master; the nil dereference `clusterState[node.Host()]`, only when the
replica itself is unregistered; or a configured ancestor other than the replica itself: the nearest healthy one, or the
configured source when the replica already streams from it. -/
inductive BsfResult (reasonable : Int) (self : String) (cs : ClusterState) (master : String) (topo : Topology) : BSF → Prop
  | master : BsfResult reasonable self cs master topo (.host master)
  | panic : cs.get? self = none → BsfResult reasonable self cs master topo (.panic "clusterState[node.Host()]")
  | ancestor (n : Nat) {r : String} : 1 ≤ n → anc topo self n = r → r ≠ self →
      (∀ j, 1 ≤ j → j < n → ¬ Healthy reasonable cs (anc topo self j)) →
      (Healthy reasonable cs r ∨ (n = 1 ∧ Already cs self r)) → BsfResult reasonable self cs master topo (.host r)

/-- The loop invariant: the detector holds the ancestors `anc 0 = self, …, anc k`, the latest first, without
duplicates; `anc 1 … anc k` are unhealthy values of `topo`.  A duplicate-free detector cannot outgrow
`topo.length + 1`, so the fuel never runs out. -/
theorem bsfLoop_spec (reasonable : Int) (self : String) (cs : ClusterState) (master : String) (topo : Topology)
    (fuel : Nat) (det : List String) : ∀ k : Nat,
    det.headD self = anc topo self k → det.length = k + 1 → self ∈ det → det.Nodup →
    det ⊆ self :: topo.map (·.2) → (∀ j, 1 ≤ j → j ≤ k → ¬ Healthy reasonable cs (anc topo self j)) →
    topo.length + 1 ≤ fuel + k →
    BsfResult reasonable self cs master topo (bsfLoop reasonable self cs master topo fuel det) := by
  fun_induction bsfLoop reasonable self cs master topo fuel det
  all_goals intro k hhead hlen hself hnd hsub hbad hfuel
  case case1 =>
    -- out of fuel: impossible
    have := hnd.length_le_of_subset hsub
    simp only [List.length_cons, List.length_map] at this
    omega
  -- no source configured, a loop, an unregistered source
  case case2 | case3 | case6 => exact .master
  case case4 h =>
    simp only [Bool.and_eq_true, Option.isNone_iff_eq_none] at h
    exact .panic h.2
  -- already streaming from the configured source (first iteration only), or a healthy source
  case case5 sf _ hni already _ h =>
    simp only [already, Bool.and_eq_true, beq_iff_eq] at h
    exact .ancestor (k + 1) (Nat.le_add_left ..) (congrArg _ hhead).symm (fun e => hni (by simpa [e] using hself))
      (fun j h1 h2 => hbad j h1 (by omega)) (.inr ⟨by omega, (alreadyB_iff cs self sf).mp h.2⟩)
  case case7 sf _ hni _ _ _ c hc h =>
    exact .ancestor (k + 1) (Nat.le_add_left ..) (congrArg _ hhead).symm (fun e => hni (by simpa [e] using hself))
      (fun j h1 h2 => hbad j h1 (by omega)) (.inl ((healthy_iff hc).mpr h))
  -- an unhealthy source joins the detector
  case case8 sf hne hni _ _ _ c hc h ih =>
    have hsf : sf = anc topo self (k + 1) := congrArg _ hhead
    refine ih (k + 1) hsf (congrArg (· + 1) hlen) (List.mem_cons_of_mem _ hself)
      (List.nodup_cons.mpr ⟨by simpa using hni, hnd⟩)
      (List.cons_subset.mpr ⟨List.mem_cons_of_mem _ (streamFromOf_mem_vals (by simpa using hne)), hsub⟩) ?_ (by omega)
    intro j h1 h2
    by_cases hj : j ≤ k
    · exact hbad j h1 hj
    · obtain rfl : j = k + 1 := by omega
      exact hsf ▸ fun hh => h ((healthy_iff hc).mp hh)

theorem bsf_spec (reasonable : Int) (self : String) (cs : ClusterState) (master : String) (topo : Topology) :
    BsfResult reasonable self cs master topo (findBestStreamFrom reasonable self cs master topo) :=
  bsfLoop_spec reasonable self cs master topo _ [self] 0 rfl rfl (List.mem_singleton_self _) (by simp) (by simp)
    (fun j h1 h0 => by omega) (by omega)

theorem beq_false_of_both {r b : Bool} (h1 : ¬(r && b) = true) (h2 : ¬(!r && b) = true) : b = false := by
  cases r <;> simp_all

/-- what the replica and the candidate `to` answered before a move: the replica's own position `mine` (read after the
candidate's snapshot `c`), the candidate's position `ctext` and server uuid `u`, and how the positions compare -/
structure Contained (cs : ClusterState) (i : In) (to mine : String) (c : NodeState) (ctext u : String) : Prop where
  fresh : i.fresh = .gtid mine
  registered : cs.get? to = some c
  text : (if c.isMaster then c.masterExecuted else c.slave.map (·.executed)) = some ctext
  uuid : i.uuid = some u
  notAhead : isSlaveAhead (parseD mine) (parseD ctext) = false
  notSplit : isSplitBrained (parseD mine) (parseD ctext) u = false
  behind : isSlaveBehindOrEqual (parseD mine) (parseD ctext) = true

/-- `acts` re-points the replica `host` (replica status `sl`) to `to`: the guards passed on the way and the shape of
the list (`repairCascade_move`) -/
structure Move (host : String) (cs : ClusterState) (i : In) (sl : SlaveState) (to : String) (acts : List Act) : Prop where
  ne_self : to ≠ host
  shape : ∃ pre post, acts = pre ++ [.readFresh, .readUuid, .changeMaster to] ++ post ∧
    (∀ a ∈ pre, a = .setLostTimer ∨ a = .stopSlave) ∧ ∀ a ∈ post, a = .startSlave
  candidate : i.candidate = .host to
  ne_upstream : to ≠ sl.masterHost
  contained : ∃ mine c ctext u, Contained cs i to mine c ctext u

theorem repairCascade_move (host : String) (st : NodeState) (cs : ClusterState) (i : In) (sl : SlaveState) (to : String)
    (hs : st.slave = some sl) (hmem : Act.changeMaster to ∈ repairCascade host st cs i) :
    Move host cs i sl to (repairCascade host st cs i) := by
  revert hmem
  -- the 20 rows of the definition; rows 18 and 19 are the move, no other row of the replica part re-points
  fun_cases repairCascade host st cs i
  -- each row has its own `sl`: identify it with ours (the three blind rows contradict `hs`)
  all_goals simp only [*] at hs
  all_goals cases hs
  all_goals intro hmem
  case case18 | case19 =>
    -- what a row of the move has collected, in the order of the definition: the candidate, the fresh position, the
    -- candidate's snapshot, text and uuid, each with the equation that binds it; the three comparisons of the
    -- positions; `host ≠ cand`; the two tests against the upstream; the two optional prefixes
    rename_i cand hc mine hf c hg _ ctext hct u hu _ _ ha hsb hb hne _ _ _ _ h1 h2 t stop _
    obtain rfl : to = cand := by simpa +zetaDelta using hmem
    -- `h1`, `h2`: neither the running nor the stopped replica streams from `cand`
    have hup : (to == sl.masterHost) = false := beq_false_of_both h1 h2
    refine ⟨fun e => hne (by simp [e]),
      ⟨t ++ stop, _, (List.append_assoc _ [Act.readFresh, .readUuid, .changeMaster to] _).symm, fun a h => ?_, by simp⟩,
      hc, by simpa using hup, mine, c, ctext, u, hf, hg, hct, hu, by simpa using ha, by simpa using hsb, hb⟩
    simp +zetaDelta at h
    exact h.imp (·.2) (·.2)
  all_goals simp +zetaDelta at hmem

/-- the source used by the blind branch: a self-reference falls back to the recorded master -/
def blindSource (host : String) (i : In) : String :=
  if host == i.streamFrom then i.master else i.streamFrom

theorem repairCascade_none (host : String) (st : NodeState) (cs : ClusterState) (i : In) (hs : st.slave = none) :
    repairCascade host st cs i =
      if host == blindSource host i then [.panic "performChangeMaster: host == master"]
      else if i.changeBlindOk then [.changeMaster (blindSource host i), .startSlave]
      else [.changeMaster (blindSource host i)] := by
  unfold repairCascade blindSource
  rw [hs]

theorem filter_nonCascade_filter (cs : ClusterState) (p : String × NodeState → Bool)
    (hp : ∀ e, p e = true → e.2.isCascade = false) :
    (cs.filter fun e => !e.2.isCascade).filter p = cs.filter p := by
  rw [List.filter_filter]
  apply List.filter_congr
  intro e _
  cases hpe : p e
  · rfl
  · simp [hp e hpe]

end CascadeLemmas
