/-
One manager iteration (C03-ii, C05, C06, C09, C20): what an approval of `approveFailover` implies, where a step comes
from (`mem_steps`), where a failover is filed (`issueFailover_source`), where an iteration can die.  The normal forms
(`asTail`, `repairs`, `hsTail`, `hsOut`) give the steps that a handler appends to what was taken before it, one equation
per handler (`afterSwitch_eq` with the tuple-`let` resolved, `handleSwitch_eq`, `stateManager_shape`), and have every
`if` at the level of a branch: `fun_cases` yields their rows.
-/
import MysyncModel.App.Manager
import MysyncModel.App.SwitchLifecycle
import MysyncProofs.Lemmas.Guard

namespace ManagerLemmas
open NS Manager SwitchLifecycle

theorem approveFailover_ok_none {cfg : Cfg} {i : In} {master : String} {tm : Option Int}
    (h : approveFailover cfg i master tm = .ok none) :
    cfg.failover = true ∧
    (∃ md, i.dcs.get? master = some md ∧
      ((md.daemonCrashRecovery = some true ∧ cfg.resetupCrashedHosts = true) ∨ md.isFsReadonly = true ∨
        (¬ (countRunningHASlaves i.cs > 0 ∧ countRunningHASlaves i.cs = countHANodes i.cs - 1) ∧
          (cfg.failoverDelay ≤ 0 ∨ ∀ t, tm = some t → i.now - t ≥ cfg.failoverDelay)))) ∧
    Gen.SwitchHelper.CheckFailoverQuorum (sh cfg) i.activeNodes (countAliveHASlavesWithin i.activeNodes i.cs) = none ∧
    (i.last = .absent ∨ ∃ causeAuto fin, i.last = .record false causeAuto fin ∧
      ¬ (causeAuto = true ∧ i.now - fin < cfg.failoverCooldown)) := by
  unfold approveFailover at h
  obtain ⟨hf, h⟩ := Guard.of_ne (by simp) h
  rcases hd : i.dcs.get? master with _ | md <;> rw [hd] at h
  · cases h
  dsimp only at h
  split at h
  · cases h
  rename_i hearly
  obtain ⟨hq, h⟩ := Guard.of_ne (by simp) h
  refine ⟨by simpa using hf, ⟨md, rfl, ?_⟩, by simpa using hq, ?_⟩
  · rcases Guard.cases hearly with ⟨hcr, -⟩ | ⟨-, hearly⟩
    · left; simpa using hcr
    rcases Guard.cases hearly with ⟨hro, -⟩ | ⟨-, hearly⟩
    · exact Or.inr (Or.inl hro)
    obtain ⟨hrun, hearly⟩ := Guard.of_ne (by simp) hearly
    refine Or.inr (Or.inr ⟨by simpa using hrun, ?_⟩)
    by_cases hdl : cfg.failoverDelay > 0
    · rw [if_pos hdl] at hearly
      refine Or.inr fun t ht => ?_
      subst ht
      exact Int.not_lt.mp (Guard.of_ne (by simp) hearly).1
    · left; omega
  · rcases hl : i.last with _ | _ | ⟨rn, ca, fin⟩ <;> rw [hl] at h
    · left; rfl
    · cases h
    · obtain ⟨hrn, h⟩ := Guard.of_ne (by simp) h
      obtain ⟨hcd, -⟩ := Guard.of_ne (by simp) h
      exact Or.inr ⟨ca, fin, by simpa using hrn, fun ⟨h1, h2⟩ => hcd (by simp [h1, h2])⟩

theorem approveFailover_error {cfg : Cfg} {i : In} {master : String} {tm : Option Int} {site : String}
    (h : approveFailover cfg i master tm = .error site) : i.dcs.get? master = none := by
  revert h
  fun_cases approveFailover cfg i master tm
  -- the one row of the definition that returns an error is the row of a missing record
  case case2 hd => exact fun _ => hd
  all_goals exact nofun

/-- the process-local failure clock (same body as `C05.tickTimer`) -/
def timerNext (bad : Bool) (now : Int) (t : Option Int) : Option Int :=
  if bad then (match t with | some x => some x | none => some now) else none

def verdictStep : Except String (Option Refusal) → Step
  | .error site => .panic site
  | .ok none => .issueFailover
  | .ok (some r) => .notApproved r

def detectSteps (bad : Bool) (fa : Option Int) : List Step :=
  if bad then (match fa with | none => [.masterFailureSeen, .setFailTimer] | some _ => [.masterFailureSeen])
  else (match fa with | some _ => [.cleanFailTimer] | none => [])

/-- what follows the failure detection when it did not end the iteration; `tm` is the timer it left -/
def repairs (cfg : Cfg) (i : In) (master : String) (light : Bool) (md : NodeState) (tm : Option Int) :
    List Step :=
  match i.cs.get? master with
  | none => [.panic "clusterState[master]"]
  | some cm =>
    if !cm.pingOk then [.suspicious]
    else if cfg.resetupCrashedHosts && countHANodes i.cs > 1 && md.daemonCrashRecovery == some true then
      if light then
        [.repairOffline, .repairCluster, .crashRecoverySeen, .failoverSuppressedByLight, .updateActiveNodes,
          .syncOptimization]
      else match approveFailover cfg i master tm with
        | .ok (some r) =>
          [.repairOffline, .repairCluster, .crashRecoverySeen, .notApproved r, .updateActiveNodes, .syncOptimization]
        | v => [.repairOffline, .repairCluster, .crashRecoverySeen, verdictStep v]
    else [.repairOffline, .repairCluster, .updateActiveNodes, .syncOptimization]

def asTail (cfg : Cfg) (i : In) (master : String) (light : Bool) : List Step :=
  match i.dcs.get? master with
  | none => []
  | some md =>
    if !md.pingOk || md.isFsReadonly then
      if light then
        detectSteps true i.failedAt ++
          .failoverSuppressedByLight :: repairs cfg i master light md (timerNext true i.now i.failedAt)
      else detectSteps true i.failedAt ++ [verdictStep (approveFailover cfg i master (timerNext true i.now i.failedAt))]
    else detectSteps false i.failedAt ++ repairs cfg i master light md none

def asTimer (i : In) (master : String) : Option Int :=
  match i.dcs.get? master with
  | none => i.failedAt
  | some md => timerNext (!md.pingOk || md.isFsReadonly) i.now i.failedAt

theorem afterSwitch_eq (cfg : Cfg) (i : In) (master : String) (light : Bool) (pre : List Step) :
    afterSwitch cfg i master light pre =
      { steps := pre ++ asTail cfg i master light, next := .manager, failedAt := asTimer i master } := by
  unfold afterSwitch asTail asTimer
  rcases i.dcs.get? master with _ | md
  · simp only [List.append_nil]
  dsimp only
  -- the first `let` of `afterSwitch` (steps, timer, "the iteration ends here") gets a name, so that the rest
  -- is normalised once, with its three results as variables, before they are determined
  generalize hd : (if (!md.pingOk || md.isFsReadonly) = true then _ else _ : List Step × Option Int × Bool) = d
  obtain ⟨s1, tm, ret⟩ := d
  refine Eq.trans (b := ⟨pre ++ (s1 ++ if ret then [] else repairs cfg i master light md tm), .manager, tm⟩) ?_ ?_
  · cases ret
    · unfold repairs
      simp only [Bool.false_eq_true, ↓reduceIte]
      rcases i.cs.get? master with _ | cm
      · simp only [List.append_assoc]
      dsimp only
      cases cm.pingOk
      · simp only [Bool.not_false, ↓reduceIte, List.append_assoc]
      cases (cfg.resetupCrashedHosts && decide (countHANodes i.cs > 1) && md.daemonCrashRecovery == some true)
      · simp only [Bool.not_true, Bool.false_eq_true, ↓reduceIte, List.append_assoc, List.cons_append,
          List.nil_append]
      cases light
      · rcases approveFailover cfg i master tm with e | _ | r <;>
          simp only [Bool.not_true, Bool.false_eq_true, ↓reduceIte, verdictStep, List.append_assoc,
            List.cons_append, List.nil_append]
      · simp only [Bool.not_true, Bool.false_eq_true, ↓reduceIte, List.append_assoc, List.cons_append,
          List.nil_append]
    · simp only [↓reduceIte, List.append_nil]
  · unfold detectSteps timerNext
    revert hd
    cases (!md.pingOk || md.isFsReadonly) <;> cases light <;> rcases i.failedAt with _ | t <;>
      simp only [Bool.false_eq_true, ↓reduceIte, List.nil_append]
    -- bad health outside light maintenance: the three verdicts
    case true.false.none => rcases approveFailover cfg i master _ with e | _ | r <;> rintro ⟨⟩ <;> rfl
    case true.false.some => rcases approveFailover cfg i master _ with e | _ | r <;> rintro ⟨⟩ <;> rfl
    all_goals rintro ⟨⟩; rfl

/-- steps of `afterSwitch` other than the filing of a failover: none of them touches the three request keys
(`switch`, `last_switch`, `last_rejected_switch`; `inert_of_quiet`) -/
def quiet : Step → Bool
  | .masterFailureSeen | .setFailTimer | .cleanFailTimer | .notApproved _ | .suspicious | .repairOffline
  | .repairCluster | .crashRecoverySeen | .updateActiveNodes | .syncOptimization | .panic _
  | .failoverSuppressedByLight => true
  | _ => false

def FiledLast (P : Prop) (l : List Step) : Prop :=
  (∀ s ∈ l, quiet s = true) ∨ ∃ q, l = q ++ [.issueFailover] ∧ (∀ s ∈ q, quiet s = true) ∧ P

theorem FiledLast.append {P : Prop} {a l : List Step} (ha : ∀ s ∈ a, quiet s = true) (h : FiledLast P l) :
    FiledLast P (a ++ l) := by
  rcases h with h | ⟨q, rfl, hq, hp⟩
  · exact Or.inl (List.forall_mem_append.mpr ⟨ha, h⟩)
  · exact Or.inr ⟨a ++ q, (List.append_assoc ..).symm, List.forall_mem_append.mpr ⟨ha, hq⟩, hp⟩

theorem FiledLast.imp {P Q : Prop} {l : List Step} (f : P → Q) (h : FiledLast P l) : FiledLast Q l :=
  h.imp_right fun ⟨q, e, hq, hp⟩ => ⟨q, e, hq, f hp⟩

theorem filedLast_verdict (v : Except String (Option Refusal)) : FiledLast (v = .ok none) [verdictStep v] := by
  rcases v with e | _ | r
  · exact Or.inl (List.all_eq_true.mp rfl)
  · exact Or.inr ⟨[], rfl, List.forall_mem_nil _, rfl⟩
  · exact Or.inl (List.all_eq_true.mp rfl)

theorem detectSteps_mem {bad : Bool} {fa : Option Int} {s : Step} (h : s ∈ detectSteps bad fa) :
    s = .masterFailureSeen ∨ s = .setFailTimer ∨ s = .cleanFailTimer := by
  revert h
  cases bad <;> cases fa <;> simp only [detectSteps, Bool.false_eq_true, ↓reduceIte, List.mem_cons, List.not_mem_nil,
    or_false] <;> intro h
  · cases h
  · exact Or.inr (Or.inr h)
  · exact h.imp_right Or.inl
  · exact Or.inl h

/-- the approval part of the gates (`C05.GatesOpen` without its conjuncts about maintenance and a pending request):
what `approveFailover … = .ok none` establishes, with the timer being the process-local `i.failedAt` -/
def Approved (cfg : Cfg) (i : In) (master : String) : Prop :=
  cfg.failover = true ∧
  (∃ md, i.dcs.get? master = some md ∧
    ((md.pingOk = false ∨ md.isFsReadonly = true) ∨ (md.daemonCrashRecovery = some true ∧ cfg.resetupCrashedHosts = true)) ∧
    ((md.daemonCrashRecovery = some true ∧ cfg.resetupCrashedHosts = true) ∨ md.isFsReadonly = true ∨
      (¬ (countRunningHASlaves i.cs > 0 ∧ countRunningHASlaves i.cs = countHANodes i.cs - 1) ∧
        (cfg.failoverDelay ≤ 0 ∨ ∃ t, i.failedAt = some t ∧ i.now - t ≥ cfg.failoverDelay)))) ∧
  Gen.SwitchHelper.CheckFailoverQuorum (sh cfg) i.activeNodes (countAliveHASlavesWithin i.activeNodes i.cs) = none ∧
  (i.last = .absent ∨ ∃ causeAuto fin, i.last = .record false causeAuto fin ∧
    ¬ (causeAuto = true ∧ i.now - fin < cfg.failoverCooldown))

theorem approved_of_bad {cfg : Cfg} {i : In} {master : String} {md : NodeState}
    (hd : i.dcs.get? master = some md) (hb : (!md.pingOk || md.isFsReadonly) = true)
    (h : approveFailover cfg i master (timerNext true i.now i.failedAt) = .ok none) :
    Approved cfg i master := by
  obtain ⟨h1, ⟨md', hd', h2⟩, h3, h4⟩ := approveFailover_ok_none h
  cases hd.symm.trans hd'
  refine ⟨h1, ⟨md, hd, Or.inl (by simpa using hb), h2.imp_right (Or.imp_right (And.imp_right ?_))⟩, h3, h4⟩
  -- a timer started in this iteration has run for 0, so the delay is not positive
  rintro (h5 | h5)
  · exact Or.inl h5
  rcases hf : i.failedAt with _ | t <;> rw [hf] at h5
  · exact Or.inl (by have := h5 _ rfl; omega)
  · exact Or.inr ⟨t, rfl, h5 t rfl⟩

theorem approved_of_crash {cfg : Cfg} {i : In} {master : String} {md : NodeState} {tm : Option Int}
    (hd : i.dcs.get? master = some md)
    (hc : md.daemonCrashRecovery = some true ∧ cfg.resetupCrashedHosts = true)
    (h : approveFailover cfg i master tm = .ok none) :
    Approved cfg i master := by
  obtain ⟨h1, _, h3, h4⟩ := approveFailover_ok_none h
  exact ⟨h1, ⟨md, hd, Or.inr hc, Or.inl hc⟩, h3, h4⟩

theorem repairs_char {cfg : Cfg} {i : In} {master : String} {light : Bool} {md : NodeState} (tm : Option Int)
    (hd : i.dcs.get? master = some md) :
    FiledLast (light = false ∧ Approved cfg i master) (repairs cfg i master light md tm) := by
  fun_cases repairs cfg i master light md tm
  -- the one row with a verdict that can be an approval: crash recovery outside light maintenance
  case case5 hcrash hl _ =>
    simp only [Bool.and_eq_true, decide_eq_true_eq, beq_iff_eq] at hcrash
    exact .append (a := [.repairOffline, .repairCluster, .crashRecoverySeen]) (List.all_eq_true.mp rfl)
      ((filedLast_verdict _).imp fun ha => ⟨Bool.eq_false_iff.mpr hl, approved_of_crash hd ⟨hcrash.2, hcrash.1.1⟩ ha⟩)
  all_goals exact Or.inl (List.all_eq_true.mp rfl)

theorem asTail_char (cfg : Cfg) (i : In) (master : String) (light : Bool) :
    FiledLast (light = false ∧ Approved cfg i master) (asTail cfg i master light) := by
  have hdet (bad fa) : ∀ s ∈ detectSteps bad fa, quiet s = true := fun s h => by
    rcases detectSteps_mem h with rfl | rfl | rfl <;> rfl
  fun_cases asTail cfg i master light
  case case1 => exact Or.inl (List.forall_mem_nil _)
  case case2 md hd _ _ =>
    exact .append (hdet _ _) (.append (a := [_]) (List.all_eq_true.mp rfl) (repairs_char _ hd))
  case case3 md hd hb hl =>
    exact .append (hdet _ _)
      ((filedLast_verdict _).imp fun ha => ⟨Bool.eq_false_iff.mpr hl, approved_of_bad hd hb ha⟩)
  case case4 md hd _ => exact .append (hdet _ _) (repairs_char _ hd)

theorem asTail_light_quiet (cfg : Cfg) (i : In) (master : String) :
    ∀ s ∈ asTail cfg i master true, quiet s = true := by
  rcases asTail_char cfg i master true with h | ⟨_, _, _, h, _⟩
  · exact h
  · cases h

def performTail : PerformOutcome → List Step
  | .abortedMeanwhile => []
  | .panicked => [.panic "performSwitchover"]
  | .failed => [.switchFailed]
  | .ok => [.switchFinished]

/-- the steps of the handling of a request that is not parked by light maintenance -/
def hsTail (cfg : Cfg) (i : In) (sw : Switch) : List Step :=
  if timedOut cfg i.now sw then [.switchTimedOut]
  else if !approveSwitchover cfg i sw then [.switchRejected]
  else if !i.startOk then [.switchStarted false]
  else [.switchStarted true, .switchPerformed i.perform] ++ performTail i.perform

/-- what the request handling appends to the steps taken before it, and the timer it leaves -/
def hsOut (cfg : Cfg) (i : In) (master : String) (light : Bool) : List Step × Option Int :=
  match i.sw with
  | .err => ([], i.failedAt)
  | .absent => (asTail cfg i master light, asTimer i master)
  | .record sw =>
    if light && sw.failoverType then (.failoverSuppressedByLight :: asTail cfg i master light, asTimer i master)
    else (hsTail cfg i sw, i.failedAt)

theorem hsOut_absent {cfg : Cfg} {i : In} {master : String} {light : Bool} (h : i.sw = .absent) :
    hsOut cfg i master light = (asTail cfg i master light, asTimer i master) := by
  rw [hsOut, h]

theorem hsOut_parked {cfg : Cfg} {i : In} {master : String} {sw : Switch} (h : i.sw = .record sw)
    (hf : sw.failoverType = true) :
    hsOut cfg i master true = (.failoverSuppressedByLight :: asTail cfg i master true, asTimer i master) := by
  rw [hsOut, h]
  exact if_pos hf

theorem hsOut_record {cfg : Cfg} {i : In} {master : String} {light : Bool} {sw : Switch} (h : i.sw = .record sw)
    (hp : ¬ (light = true ∧ sw.failoverType = true)) : hsOut cfg i master light = (hsTail cfg i sw, i.failedAt) := by
  rw [hsOut, h]
  exact if_neg (by simpa using hp)

theorem handleSwitch_eq (cfg : Cfg) (i : In) (master : String) (light : Bool) (pre : List Step) :
    handleSwitch cfg i master light pre =
      { steps := pre ++ (hsOut cfg i master light).1, next := .manager, failedAt := (hsOut cfg i master light).2 } := by
  unfold handleSwitch hsOut hsTail
  rcases i.sw with _ | _ | sw
  · exact afterSwitch_eq ..
  · simp only [List.append_nil]
  dsimp only
  cases (light && sw.failoverType)
  · simp only [Bool.false_eq_true, ↓reduceIte, apply_ite (fun l => (⟨pre ++ l, .manager, i.failedAt⟩ : Out)),
      List.append_assoc]
    rfl
  · simp only [↓reduceIte, afterSwitch_eq, List.append_assoc]; rfl

/-- steps taken before the request handling: the emergency marker and the maintenance bookkeeping -/
def early : Step → Bool
  | .writeEmerge | .tryLeaveMaintenance | .setMaintPaused _ | .enterMaintenance _ => true
  | _ => false

/-- the iteration reaches the switch handling for `master`, under `light`, having taken `pre` -/
structure Enters (i : In) (master : String) (light : Bool) (pre : List Step) : Prop where
  connected : i.connected = true
  lockHeld : i.lockHeld = true
  dcsOk : i.dcsStateErr = false
  master : i.master = some master
  activeOk : i.activeNodesErr = false
  /-- no maintenance; light maintenance acknowledged before; acknowledged in this iteration -/
  mode : (light = false ∧ pre = [] ∧ (i.maint = .absent ∨ i.maint = .err false)) ∨
    (light = true ∧ pre = [] ∧ i.maint = .record true true false) ∨
    (light = true ∧ pre = [.setMaintPaused true] ∧ i.maint = .record true false false ∧ i.setPausedOk = true)

theorem stateManager_of_enters {cfg : Cfg} {i : In} {master : String} {light : Bool} {pre : List Step}
    (h : Enters i master light pre) : stateManager cfg i = handleSwitch cfg i master light pre := by
  obtain ⟨hc, hl, hd, hm, ha, h⟩ := h
  rcases h with ⟨rfl, rfl, h | h⟩ | ⟨rfl, rfl, h⟩ | ⟨rfl, rfl, h, hs⟩ <;>
    simp [stateManager, *]

/-- an iteration returns before the request handling, having taken only `early` steps and left the timer alone, or
enters it -/
theorem stateManager_shape (cfg : Cfg) (i : In) :
    ((stateManager cfg i).failedAt = i.failedAt ∧ ∀ s ∈ (stateManager cfg i).steps, early s = true) ∨
    ∃ master light pre, Enters i master light pre ∧
      stateManager cfg i =
        ⟨pre ++ (hsOut cfg i master light).1, .manager, (hsOut cfg i master light).2⟩ := by
  fun_cases stateManager cfg i
  -- the four rows that call `handleSwitch`: no record / unreadable without marker file, light mode acknowledged now / before
  case case7 | case8 | case10 | case12 =>
    refine Or.inr ⟨_, _, _, ⟨?_, ?_, ?_, ?_, ?_, ?_⟩, handleSwitch_eq ..⟩ <;> simp_all
  -- no recorded master: the emergency marker, if there are several
  case case4 => exact Or.inl ⟨rfl, by split <;> exact List.all_eq_true.mp rfl⟩
  all_goals exact Or.inl ⟨rfl, List.all_eq_true.mp rfl⟩

theorem Enters.pre_early {i : In} {master : String} {light : Bool} {pre : List Step}
    (h : Enters i master light pre) : ∀ s ∈ pre, early s = true := by
  obtain ⟨_, _, _, _, _, h⟩ := h
  rcases h with ⟨_, rfl, _⟩ | ⟨_, rfl, _⟩ | ⟨_, rfl, _⟩ <;> exact List.all_eq_true.mp rfl

theorem Enters.not_light {i : In} {master : String} {pre : List Step} (h : Enters i master false pre) :
    pre = [] ∧ (i.maint = .absent ∨ i.maint = .err false) := by
  obtain ⟨_, _, _, _, _, ⟨_, h⟩ | ⟨h, _⟩ | ⟨h, _⟩⟩ := h
  · exact h
  · cases h
  · cases h

theorem Enters.light_of_record {i : In} {master : String} {light : Bool} {pre : List Step} {l p sl : Bool}
    (h : Enters i master light pre) (hm : i.maint = .record l p sl) : light = true := by
  cases light
  · rcases h.not_light.2 with e | e <;> rw [hm] at e <;> cases e
  · rfl

def swStep : Step → Bool
  | .switchTimedOut | .switchRejected | .switchStarted _ | .switchPerformed _ | .switchFailed
  | .switchFinished | .panic _ => true
  | _ => false

theorem hsTail_mem (cfg : Cfg) (i : In) (sw : Switch) : ∀ s ∈ hsTail cfg i sw, swStep s = true := by
  fun_cases hsTail cfg i sw
  case case4 => cases i.perform <;> exact List.all_eq_true.mp rfl
  all_goals exact List.all_eq_true.mp rfl

theorem ne_of_class {α : Type} {p : α → Bool} {s t : α} {b : Bool} (hs : p s = b) (ht : p t = !b) : s ≠ t :=
  fun e => by rw [e, ht] at hs; cases b <;> cases hs

theorem not_class_of_class {α : Type} {p q : α → Bool} {s : α} (hqp : ∀ t, (q t && p t) = false) (h : p s = true) :
    q s = false := by
  have := hqp s
  rwa [h, Bool.and_true] at this

theorem mem_steps {cfg : Cfg} {i : In} {s : Step} (h : s ∈ (stateManager cfg i).steps) :
    early s = true ∨ s = .failoverSuppressedByLight ∨
    ∃ master light pre, Enters i master light pre ∧
      (s ∈ asTail cfg i master light ∨
        ∃ sw, i.sw = .record sw ∧ ¬ (light = true ∧ sw.failoverType = true) ∧ s ∈ hsTail cfg i sw) := by
  rcases stateManager_shape cfg i with ⟨_, he⟩ | ⟨m, light, pre, hen, e⟩
  · exact Or.inl (he s h)
  rw [e] at h
  refine (List.mem_append.mp h).imp (hen.pre_early s) fun h => ?_
  revert h
  -- the rows of `hsOut`: request unreadable (nothing more), no request, failover request parked by light maintenance
  -- (the marker, then as without a request), request handled
  fun_cases hsOut cfg i m light
  case case1 => exact nofun
  case case2 => exact fun h => Or.inr ⟨m, light, pre, hen, Or.inl h⟩
  case case3 => exact fun h => (List.mem_cons.mp h).imp_right fun h => ⟨m, light, pre, hen, Or.inl h⟩
  case case4 sw hsw hp =>
    exact fun h => Or.inr ⟨m, light, pre, hen, Or.inr ⟨sw, hsw, by simpa using hp, h⟩⟩

theorem issueFailover_source {cfg : Cfg} {i : In} (h : Step.issueFailover ∈ (stateManager cfg i).steps) :
    ∃ master q, Enters i master false [] ∧ i.sw = .absent ∧ Approved cfg i master ∧
      (stateManager cfg i).steps = q ++ [.issueFailover] ∧ ∀ s ∈ q, quiet s = true := by
  rcases stateManager_shape cfg i with ⟨_, he⟩ | ⟨m, light, pre, hen, e⟩
  · cases he _ h
  rw [e] at h ⊢
  replace h := (List.mem_append.mp h).resolve_left fun hm => by cases hen.pre_early _ hm
  revert h
  -- the rows of `hsOut`; only the one without a request can file: an unreadable request ends the iteration, a parked
  -- one means light maintenance, where the tail is quiet, and the handling of a request takes `swStep`s only
  fun_cases hsOut cfg i m light
  case case1 => exact nofun
  case case2 hsw =>
    intro h
    rcases asTail_char cfg i m light with hq | ⟨q, hq, hqq, rfl, happ⟩
    · cases hq _ h
    · obtain ⟨rfl, _⟩ := hen.not_light
      exact ⟨m, q, hen, hsw, happ, hq, hqq⟩
  case case3 sw _ hp =>
    obtain ⟨rfl, _⟩ : light = true ∧ _ := by simpa using hp
    exact fun h => nomatch asTail_light_quiet cfg i m _ ((List.mem_cons.mp h).resolve_left nofun)
  case case4 sw _ _ => exact fun h => nomatch hsTail_mem cfg i sw _ h

theorem stateManager_no_lock (cfg : Cfg) (i : In) (h : i.connected = false ∨ i.lockHeld = false) :
    (stateManager cfg i).steps = [] ∧ (stateManager cfg i).next ≠ State.manager := by
  unfold stateManager
  rcases h with h | h
  · simp [h]
  · cases hc : i.connected <;> simp [h]

theorem verdictStep_panic {v : Except String (Option Refusal)} {site : String}
    (h : Step.panic site = verdictStep v) : v = .error site := by
  rcases v with e | _ | r <;> cases h
  rfl

theorem repairs_panic {cfg : Cfg} {i : In} {master : String} {light : Bool} {md : NodeState} {tm : Option Int}
    {site : String} (hd : i.dcs.get? master = some md) (h : Step.panic site ∈ repairs cfg i master light md tm) :
    i.cs.get? master = none := by
  revert h
  fun_cases repairs cfg i master light md tm
  case case1 hc => exact fun _ => hc
  -- the verdict in the crash-recovery branch: an error needs a missing health record
  case case5 =>
    intro h
    simp only [List.mem_cons, reduceCtorEq, false_or, List.not_mem_nil, or_false] at h
    cases hd.symm.trans (approveFailover_error (verdictStep_panic h))
  all_goals exact fun h => by simp at h

theorem asTail_panic {cfg : Cfg} {i : In} {master : String} {light : Bool} {site : String}
    (h : Step.panic site ∈ asTail cfg i master light) :
    (i.dcs.get? master).isSome = true ∧ (i.cs.get? master).isNone = true := by
  -- the failure detection does not die, so the panic is among the steps after it
  have hdet {bad fa l} (h : Step.panic site ∈ detectSteps bad fa ++ l) : Step.panic site ∈ l :=
    (List.mem_append.mp h).resolve_left fun h => by rcases detectSteps_mem h with h | h | h <;> cases h
  have hrep {md tm} (hd : i.dcs.get? master = some md) (h : Step.panic site ∈ repairs cfg i master light md tm) :
      (i.dcs.get? master).isSome = true ∧ (i.cs.get? master).isNone = true :=
    ⟨Option.isSome_of_eq_some hd, Option.isNone_iff_eq_none.mpr (repairs_panic hd h)⟩
  revert h
  fun_cases asTail cfg i master light
  case case1 => exact nofun
  case case2 md hd _ _ => exact fun h => hrep hd ((List.mem_cons.mp (hdet h)).resolve_left nofun)
  case case3 md hd _ _ =>
    exact fun h => nomatch hd.symm.trans (approveFailover_error (verdictStep_panic (List.mem_singleton.mp (hdet h))))
  case case4 md hd _ => exact fun h => hrep hd (hdet h)

theorem hsTail_panic {cfg : Cfg} {i : In} {sw : Switch} {site : String}
    (h : Step.panic site ∈ hsTail cfg i sw) : i.perform = .panicked := by
  revert h
  fun_cases hsTail cfg i sw
  case case4 => cases i.perform <;> simp [performTail]
  all_goals exact fun h => by simp at h

end ManagerLemmas
