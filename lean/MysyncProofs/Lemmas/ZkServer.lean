/- Lemmas for C15, part 2: the znode tree.  The tree is used through `find?` only: each update (`put`, `erase`,
`expire`) has its `find?` equation, well-formedness is read on `find?` (`wf_iff`) and carried from one tree to
another by one lemma (`wf_transfer`), and each primitive does nothing or one of three updates (`Upd`).  What `create`,
`set`, `delete` do and answer is read off `Created`, `Written`, `Deleted`: one constructor per outcome, indexed by the
step's result, so that `cases` on a known result leaves only the outcomes that give it. -/
import MysyncModel.Dcs.Zk
import MysyncProofs.Lemmas.ListFacts

namespace ZkLemmas
open Zk

/-- `Server.find?` on the bare list -/
def lk (l : List (Path × ZNode)) (p : Path) : Option ZNode := (l.find? (·.1 == p)).map (·.2)

theorem find?_eq_lk (s : Server) (p : Path) : s.find? p = lk s.nodes p := rfl

@[simp] theorem lk_nil (p : Path) : lk [] p = none := rfl

theorem lk_cons (q : Path) (m : ZNode) (l : List (Path × ZNode)) (p : Path) :
    lk ((q, m) :: l) p = if q = p then some m else lk l p := by
  by_cases h : q = p <;> simp [lk, h]

theorem mem_lk {l : List (Path × ZNode)} {p : Path} {n : ZNode} (nd : (l.map (·.1)).Nodup) (h : (p, n) ∈ l) :
    lk l p = some n := by
  induction l with
  | nil => simp at h
  | cons a l ih =>
    obtain ⟨q, m⟩ := a
    rw [lk_cons]
    simp only [List.map_cons, List.nodup_cons] at nd
    rcases List.mem_cons.1 h with h' | h'
    · cases h'; simp
    · have hq : q ≠ p := fun hq => nd.1 (List.mem_map.2 ⟨(p, n), h', hq.symm⟩)
      simp [hq, ih nd.2 h']

theorem lk_append (l l' : List (Path × ZNode)) (p : Path) : lk (l ++ l') p = (lk l p).or (lk l' p) := by
  simp only [lk, List.find?_append]
  cases l.find? (·.1 == p) <;> rfl

theorem lk_map_replace (l : List (Path × ZNode)) (q : Path) (n : ZNode) (p : Path) :
    lk (l.map fun (x, m) => if x == q then (x, n) else (x, m)) p =
      if p = q then (lk l p).map (fun _ => n) else lk l p := by
  have hkey : ((·.1 == p) ∘ fun (x : Path × ZNode) => if x.1 == q then (x.1, n) else (x.1, x.2)) = (·.1 == p) := by
    funext a; simp only [Function.comp]; split <;> rfl
  simp only [lk, List.find?_map, Option.map_map, hkey]
  cases h : l.find? (·.1 == p) with
  | none => simp
  | some a =>
    have ha : a.1 = p := by simpa using List.find?_some h
    by_cases hpq : p = q <;> simp [ha, hpq]

theorem find?_mem {s : Server} {p : Path} {n : ZNode} (h : s.find? p = some n) : (p, n) ∈ s.nodes := by
  obtain ⟨⟨q, m⟩, hf, rfl⟩ := Option.map_eq_some_iff.1 h
  have hq : q = p := by simpa using List.find?_some hf
  exact hq ▸ List.mem_of_find?_eq_some hf

theorem find?_isSome_iff {s : Server} {p : Path} : (s.find? p).isSome = true ↔ ∃ n, (p, n) ∈ s.nodes := by
  simp only [Server.find?, Option.isSome_map, List.find?_isSome, beq_iff_eq]
  exact ⟨fun ⟨⟨q, n⟩, hm, hq⟩ => ⟨n, hq ▸ hm⟩, fun ⟨n, hn⟩ => ⟨(p, n), hn, rfl⟩⟩

theorem find?_none_iff {s : Server} {p : Path} : s.find? p = none ↔ ∀ n, (p, n) ∉ s.nodes := by
  rw [← Option.not_isSome_iff_eq_none, find?_isSome_iff, not_exists]

theorem has_iff (s : Server) (p : Path) : s.has p = true ↔ p = [] ∨ ∃ n, (p, n) ∈ s.nodes := by
  unfold Server.has
  rw [Bool.or_eq_true, find?_isSome_iff]
  simp

theorem put_of_none {s : Server} {p : Path} (n : ZNode) (h : s.find? p = none) :
    s.put p n = { s with nodes := s.nodes ++ [(p, n)] } := by
  simp [Server.put, h]

theorem put_of_some {s : Server} {p : Path} (n : ZNode) (h : (s.find? p).isSome = true) :
    s.put p n = { s with nodes := s.nodes.map fun (q, m) => if q == p then (q, n) else (q, m) } := by
  simp [Server.put, h]

theorem put_live (s : Server) (p : Path) (n : ZNode) : (s.put p n).live = s.live := by
  unfold Server.put; split <;> rfl

theorem find?_put (s : Server) (p q : Path) (n : ZNode) : (s.put p n).find? q = if q = p then some n else s.find? q := by
  cases h : s.find? p with
  | none =>
    rw [put_of_none n h, find?_eq_lk, lk_append, ← find?_eq_lk]
    split
    · next hq => subst hq; simp [h, lk_cons]
    · next hq => cases s.find? q <;> simp [lk_cons, Ne.symm hq]
  | some m =>
    rw [put_of_some n (by simp [h]), find?_eq_lk, lk_map_replace, ← find?_eq_lk]
    split
    · next hq => subst hq; simp [h]
    · rfl

theorem find?_put_self (s : Server) (p : Path) (n : ZNode) : (s.put p n).find? p = some n := by
  simp [find?_put]

theorem find?_put_other (s : Server) (p q : Path) (n : ZNode) (hq : q ≠ p) : (s.put p n).find? q = s.find? q := by
  simp [find?_put, hq]

theorem find?_erase (s : Server) (p q : Path) : (s.erase p).find? q = if q = p then none else s.find? q := by
  simp only [Server.find?, Server.erase, List.find?_filter]
  split
  · next h => subst h; simp [List.find?_eq_none]
  · next h =>
    congr 2; funext a
    by_cases ha : a.1 = q <;> simp [ha, h]

theorem find?_erase_self (s : Server) (p : Path) : (s.erase p).find? p = none := by
  simp [find?_erase]

theorem find?_erase_other (s : Server) (p q : Path) (hq : q ≠ p) : (s.erase p).find? q = s.find? q := by
  simp [find?_erase, hq]

theorem nodup_put {s : Server} (nd : (s.nodes.map (·.1)).Nodup) (p : Path) (n : ZNode) :
    ((s.put p n).nodes.map (·.1)).Nodup := by
  unfold Server.put
  split
  · -- replacing a value moves no key
    rw [List.map_map]
    refine (congrArg List.Nodup (List.map_congr_left fun x _ => ?_)).mpr nd
    simp only [Function.comp]; split <;> rfl
  · next hnone =>
    rw [List.map_append, List.nodup_append]
    refine ⟨nd, by simp, fun a ha b hb hab => ?_⟩
    obtain ⟨⟨q, m⟩, hq, rfl⟩ := List.mem_map.1 ha
    rw [List.mem_singleton.1 hb] at hab
    exact hnone (find?_isSome_iff.2 ⟨m, (show q = p from hab) ▸ hq⟩)

theorem mem_childrenOf (s : Server) (p : Path) (c : String) :
    c ∈ s.childrenOf p ↔ ∃ n, (p ++ [c], n) ∈ s.nodes := by
  unfold Server.childrenOf
  simp only [List.mem_filterMap, Prod.exists, Option.ite_none_right_eq_some, Bool.and_eq_true, beq_iff_eq, bne_iff_ne]
  constructor
  · rintro ⟨q, n, hq, ⟨hd, _⟩, hl⟩
    obtain ⟨ys, rfl⟩ := List.getLast?_eq_some_iff.1 hl
    rw [List.dropLast_concat] at hd
    exact ⟨n, hd ▸ hq⟩
  · rintro ⟨n, hn⟩
    exact ⟨_, n, hn, ⟨List.dropLast_concat, by simp⟩, List.getLast?_concat ..⟩

theorem childrenOf_eq_nil_iff (s : Server) (p : Path) :
    s.childrenOf p = [] ↔ ∀ q n, (q, n) ∈ s.nodes → q ≠ [] → q.dropLast ≠ p := by
  simp only [List.eq_nil_iff_forall_not_mem, mem_childrenOf, not_exists]
  constructor
  · intro h q n hq hne hd
    exact h (q.getLast hne) n (by rwa [← hd, List.dropLast_concat_getLast])
  · intro h c n hc
    exact h _ n hc (by simp) List.dropLast_concat

/-- literally `C15.WFTree` (stated here so that the helper lemmas can use it) -/
def WF (s : Server) : Prop :=
  (s.nodes.map (·.1)).Nodup ∧
  (∀ p n, (p, n) ∈ s.nodes → p ≠ [] ∧ s.has p.dropLast = true) ∧
  (∀ p n, (p, n) ∈ s.nodes → n.owner ≠ 0 → s.childrenOf p = [] ∧ n.owner ∈ s.live)

theorem WF.nd {s : Server} (h : WF s) : (s.nodes.map (·.1)).Nodup := h.1

theorem WF.ne_nil {s : Server} (h : WF s) {p : Path} {n : ZNode} (hm : (p, n) ∈ s.nodes) : p ≠ [] := (h.2.1 p n hm).1

theorem WF.parent {s : Server} (h : WF s) {p : Path} {n : ZNode} (hm : (p, n) ∈ s.nodes) :
    p.dropLast = [] ∨ ∃ m, (p.dropLast, m) ∈ s.nodes := (has_iff _ _).1 (h.2.1 p n hm).2

theorem WF.find?_nil {s : Server} (h : WF s) : s.find? [] = none :=
  find?_none_iff.2 fun _ hn => h.ne_nil hn rfl

/-- what well-formedness asks of an entry `m` at key `x` -/
structure EntryOk (s : Server) (x : Path) (m : ZNode) : Prop where
  ne_nil : x ≠ []
  parent : x.dropLast = [] ∨ ∃ m', s.find? x.dropLast = some m' ∧ m'.owner = 0
  live : m.owner ≠ 0 → m.owner ∈ s.live

/-- well-formedness read on `find?`: "an ephemeral entry has no children" is "a parent is plain" -/
theorem wf_iff {s : Server} : WF s ↔ (s.nodes.map (·.1)).Nodup ∧ ∀ x m, s.find? x = some m → EntryOk s x m := by
  constructor
  · intro h
    refine ⟨h.nd, fun x m hx => ?_⟩
    have hm := find?_mem hx
    refine ⟨h.ne_nil hm, (h.parent hm).imp id fun ⟨m', hm'⟩ => ⟨m', mem_lk h.nd hm', ?_⟩,
      fun ho => (h.2.2 x m hm ho).2⟩
    -- an ephemeral parent would have no child `x`
    refine Decidable.byContradiction fun ho => ?_
    exact (childrenOf_eq_nil_iff s _).1 (h.2.2 _ m' hm' ho).1 x m hm (h.ne_nil hm) rfl
  · rintro ⟨nd, h⟩
    have ok : ∀ {x m}, (x, m) ∈ s.nodes → EntryOk s x m := fun hm => h _ _ (mem_lk nd hm)
    refine ⟨nd, fun p n hp => ⟨(ok hp).ne_nil, (has_iff _ _).2 ((ok hp).parent.imp id fun ⟨m, hm, _⟩ => ⟨m, find?_mem hm⟩)⟩,
      fun p n hp ho => ⟨(childrenOf_eq_nil_iff _ _).2 fun q nq hq _ hd => ?_, (ok hp).live ho⟩⟩
    -- the parent `p` of `q` is the root or plain
    rcases (ok hq).parent with h0 | ⟨m, hm, hm0⟩
    · exact (ok hp).ne_nil (hd ▸ h0)
    · cases (mem_lk nd hp).symm.trans (hd ▸ hm); exact ho hm0

theorem WF.entry {s : Server} (h : WF s) {x : Path} {m : ZNode} (hx : s.find? x = some m) : EntryOk s x m :=
  (wf_iff.1 h).2 x m hx

/-- Well-formedness carries over from `s` to `s'` when every entry of `s'` is an entry of `s` with the same
owner, or a new one that well-formedness allows; an old parent of an entry of `s'` is still there; and the owners
in `s'` that were live are live.  (All primitives, session expiry and session open are instances.) -/
theorem wf_transfer {s s' : Server} (h : WF s) (hnd : (s'.nodes.map (·.1)).Nodup)
    (h1 : ∀ x m', s'.find? x = some m' →
      (∃ m, s.find? x = some m ∧ m'.owner = m.owner) ∨ s.find? x = none ∧ EntryOk s' x m')
    (h2 : ∀ y my, s'.find? y = some my → (s.find? y.dropLast).isSome = true → (s'.find? y.dropLast).isSome = true)
    (hl : ∀ x m', s'.find? x = some m' → m'.owner ∈ s.live → m'.owner ∈ s'.live) : WF s' := by
  refine wf_iff.2 ⟨hnd, fun x m' hx => ?_⟩
  rcases h1 x m' hx with ⟨m, hm, hom⟩ | ⟨_, hok⟩
  · obtain ⟨hne, hpar, hlive⟩ := h.entry hm
    refine ⟨hne, hpar.imp id fun ⟨m2, hm2, h0⟩ => ?_, fun ho => hl x m' hx (hom ▸ hlive (hom ▸ ho))⟩
    -- the old parent is still there (`h2`), with its owner (`h1`)
    obtain ⟨m2', hm2'⟩ := Option.isSome_iff_exists.1 (h2 x m' hx (by rw [hm2]; rfl))
    rcases h1 _ m2' hm2' with ⟨m3, hm3, ho3⟩ | ⟨hnone, _⟩
    · rw [hm2] at hm3; cases hm3; exact ⟨m2', hm2', ho3.trans h0⟩
    · rw [hm2] at hnone; cases hnone
  · exact hok

theorem wf_put {s : Server} (h : WF s) (p : Path) (n : ZNode)
    (hn : (∃ m, s.find? p = some m ∧ n.owner = m.owner) ∨ s.find? p = none ∧ EntryOk (s.put p n) p n) :
    WF (s.put p n) := by
  refine wf_transfer h (nodup_put h.nd _ _) (fun x m' hx => ?_) (fun y my _ hy => ?_)
    (fun _ _ _ hlive => by rwa [put_live])
  · rw [find?_put] at hx
    split at hx
    · next hxp => cases hx; exact hxp ▸ hn
    · exact Or.inl ⟨m', hx, rfl⟩
  · rw [find?_put]; split
    · rfl
    · exact hy

theorem WF.prefix_exists {s : Server} (h : WF s) {x y : Path} (hx : (s.find? x).isSome = true) (hy : y <+: x)
    (hne : y ≠ []) : (s.find? y).isSome = true := by
  induction x using List.reverse_induction with
  | nil => exact absurd (List.prefix_nil.1 hy) hne
  | snoc l a ih =>
    rcases List.prefix_concat_iff.1 hy with rfl | hy
    · exact hx
    · obtain ⟨n, hn⟩ := find?_isSome_iff.1 hx
      rcases h.parent hn with h0 | ⟨m, hm⟩
      · rw [List.dropLast_concat] at h0; subst h0; exact absurd (List.prefix_nil.1 hy) hne
      · rw [List.dropLast_concat] at hm; exact ih (find?_isSome_iff.2 ⟨m, hm⟩) hy

/-- what a primitive of session `sid` can do to the tree (`step_upd`) -/
inductive Upd (s : Server) (sid : Sid) : Server → Prop
  | same : Upd s sid s
  | add (p : Path) (n : ZNode) (hp : p ≠ []) (hnone : s.find? p = none)
      (hpar : p.dropLast = [] ∨ ∃ m, s.find? p.dropLast = some m ∧ m.owner = 0)
      (hown : n.owner = 0 ∨ n.owner = sid) : Upd s sid (s.put p n)
  | replace (p : Path) (m n : ZNode) (hm : s.find? p = some m) (hown : n.owner = m.owner) : Upd s sid (s.put p n)
  | remove (p : Path) (hc : s.childrenOf p = []) : Upd s sid (s.erase p)

theorem Upd.live {s s' : Server} {sid : Sid} (u : Upd s sid s') : s'.live = s.live := by
  cases u with
  | same => rfl
  | add => exact put_live _ _ _
  | replace => exact put_live _ _ _
  | remove => rfl

theorem Upd.wf {s s' : Server} {sid : Sid} (u : Upd s sid s') (h : WF s) (hl : sid ≠ 0 → sid ∈ s.live) : WF s' := by
  cases u with
  | same => exact h
  | add p n hp hnone hpar hown =>
    refine wf_put h p n (Or.inr ⟨hnone, hp, ?_, fun ho => ?_⟩)
    · rwa [find?_put_other _ _ _ _ (List.dropLast_ne_self hp)]
    · rw [put_live]
      rcases hown with h0 | h0
      · exact absurd h0 ho
      · rw [h0] at ho ⊢; exact hl ho
  | replace p m n hm hown => exact wf_put h p n (Or.inl ⟨m, hm, hown⟩)
  | remove p hc =>
    refine wf_transfer h ((List.filter_sublist.map _).nodup h.nd) (fun x m' hx => Or.inl ?_) (fun y my hy hpar => ?_)
      (fun _ _ _ hlive => hlive)
    · rw [find?_erase] at hx
      split at hx
      · cases hx
      · exact ⟨m', hx, rfl⟩
    · rw [find?_erase] at hy ⊢
      split at hy
      · cases hy
      · rw [if_neg]
        · exact hpar
        · exact (childrenOf_eq_nil_iff s p).1 hc y my (find?_mem hy) (h.ne_nil (find?_mem hy))

theorem Upd.owner {s s' : Server} {sid : Sid} (u : Upd s sid s') {p : Path} {n n' : ZNode}
    (h1 : s.find? p = some n) (h2 : s'.find? p = some n') : n'.owner = n.owner := by
  cases u with
  | same => rw [h1] at h2; cases h2; rfl
  | add q m _ hnone =>
    rw [find?_put_other _ _ _ _ (fun e => by rw [e, hnone] at h1; cases h1), h1] at h2; cases h2; rfl
  | replace q m m' hm hown =>
    rw [find?_put] at h2
    split at h2
    · next e => cases h2; rw [e, hm] at h1; cases h1; exact hown
    · rw [h1] at h2; cases h2; rfl
  | remove q =>
    rw [find?_erase] at h2
    split at h2
    · cases h2
    · rw [h1] at h2; cases h2; rfl

theorem step_get_some {s : Server} (sid : Sid) {p : Path} {n : ZNode} (h : s.find? p = some n) :
    s.step sid (.get p) = (s, .data n.data n.version n.owner) := by
  simp [Server.step, h]

theorem step_get_none {s : Server} (sid : Sid) {p : Path} (hp : p ≠ []) (h : s.find? p = none) :
    s.step sid (.get p) = (s, .err .noNode) := by
  simp [Server.step, h, hp]

theorem step_get_fst (s : Server) (sid : Sid) (p : Path) : (s.step sid (.get p)).1 = s := by
  simp only [Server.step]
  split
  · rfl
  · split <;> rfl

theorem step_children_fst (s : Server) (sid : Sid) (p : Path) : (s.step sid (.children p)).1 = s := by
  simp only [Server.step]; split <;> rfl

/-- what `create p d eph` by session `sid` does to `s` and answers (`step_created`) -/
inductive Created (s : Server) (sid : Sid) (p : Path) (d : String) (eph : Bool) : Server × Resp → Prop
  | ok (hp : p ≠ []) (hnone : s.find? p = none)
      (hpar : p.dropLast = [] ∨ ∃ m, s.find? p.dropLast = some m ∧ m.owner = 0) :
      Created s sid p d eph (s.put p { data := d, version := 0, owner := if eph then sid else 0 }, .created)
  | exists_ (h : p = [] ∨ (s.find? p).isSome = true) : Created s sid p d eph (s, .err .nodeExists)
  | noParent (hd : p.dropLast ≠ []) (hpar : s.find? p.dropLast = none) : Created s sid p d eph (s, .err .noNode)
  | ephParent (hnone : s.find? p = none) (hd : p.dropLast ≠ []) (m : ZNode) (hm : s.find? p.dropLast = some m)
      (ho : m.owner ≠ 0) : Created s sid p d eph (s, .err .noChildrenForEphemerals)

theorem step_created {s : Server} {sid : Sid} {p : Path} {d : String} {eph : Bool} {x : Server × Resp}
    (h : s.step sid (.create p d eph) = x) : Created s sid p d eph x := by
  subst h
  by_cases hp : p = []
  · simp only [Server.step, hp, beq_self_eq_true, if_true]; exact .exists_ (.inl rfl)
  by_cases hd : p.dropLast = []
  · cases hf : s.find? p with
    | some m' => simp [Server.step, hp, hd, hf]; exact .exists_ (.inr (by rw [hf]; rfl))
    | none => simp [Server.step, hp, hd, hf]; exact .ok hp hf (.inl hd)
  cases hpar : s.find? p.dropLast with
  | none => simp [Server.step, hp, hd, hpar]; exact .noParent hd hpar
  | some m =>
    cases hf : s.find? p with
    | some m' => simp [Server.step, hp, hd, hpar, hf]; exact .exists_ (.inr (by rw [hf]; rfl))
    | none =>
      by_cases hm0 : m.owner = 0
      · simp [Server.step, hp, hd, hpar, hf, hm0]; exact .ok hp hf (.inr ⟨m, hpar, hm0⟩)
      · simp [Server.step, hp, hd, hpar, hf, hm0]; exact .ephParent hf hd m hpar hm0

theorem step_create_ok {s : Server} (sid : Sid) {p : Path} (d : String) (eph : Bool) (hp : p ≠ [])
    (hnone : s.find? p = none)
    (hpar : p.dropLast = [] ∨ ∃ m, s.find? p.dropLast = some m ∧ m.owner = 0) :
    s.step sid (.create p d eph) = (s.put p { data := d, version := 0, owner := if eph then sid else 0 }, .created) := by
  generalize hx : s.step sid (.create p d eph) = x
  cases step_created hx with
  | ok => rfl
  | exists_ h => simp [hp, hnone] at h
  | noParent hd h => simp [hd, h] at hpar
  | ephParent _ hd m h ho => simp [hd, h, ho] at hpar

/-- what `set p d v` does to `s` and answers (`step_written`) -/
inductive Written (s : Server) (p : Path) (d : String) (v : Int) : Server × Resp → Prop
  | ok (n : ZNode) (hn : s.find? p = some n) (hv : v = -1 ∨ v = n.version) :
      Written s p d v (s.put p { n with data := d, version := n.version + 1 }, .stat (n.version + 1))
  | noNode (hn : s.find? p = none) : Written s p d v (s, .err .noNode)
  | badVersion (n : ZNode) (hn : s.find? p = some n) (h1 : v ≠ -1) (h2 : v ≠ n.version) :
      Written s p d v (s, .err .badVersion)

theorem step_written {s : Server} {sid : Sid} {p : Path} {d : String} {v : Int} {x : Server × Resp}
    (h : s.step sid (.set p d v) = x) : Written s p d v x := by
  subst h
  cases hf : s.find? p with
  | none => simp [Server.step, hf]; exact .noNode hf
  | some n =>
    by_cases hv : v ≠ -1 ∧ v ≠ n.version
    · simp [Server.step, hf, hv]; exact .badVersion n hf hv.1 hv.2
    · simp [Server.step, hf, hv]; exact .ok n hf (by omega)

/-- what `delete p v` does to `s` and answers (`step_deleted`) -/
inductive Deleted (s : Server) (p : Path) (v : Int) : Server × Resp → Prop
  | ok (n : ZNode) (hn : s.find? p = some n) (hv : v = -1 ∨ v = n.version) (hc : s.childrenOf p = []) :
      Deleted s p v (s.erase p, .deleted)
  | noNode (hn : s.find? p = none) : Deleted s p v (s, .err .noNode)
  | badVersion (n : ZNode) (hn : s.find? p = some n) (h1 : v ≠ -1) (h2 : v ≠ n.version) :
      Deleted s p v (s, .err .badVersion)
  | notEmpty (n : ZNode) (hn : s.find? p = some n) (hc : s.childrenOf p ≠ []) : Deleted s p v (s, .err .notEmpty)

theorem step_deleted {s : Server} {sid : Sid} {p : Path} {v : Int} {x : Server × Resp}
    (h : s.step sid (.delete p v) = x) : Deleted s p v x := by
  subst h
  cases hf : s.find? p with
  | none => simp [Server.step, hf]; exact .noNode hf
  | some n =>
    by_cases hv : v ≠ -1 ∧ v ≠ n.version
    · simp [Server.step, hf, hv]; exact .badVersion n hf hv.1 hv.2
    by_cases hc : s.childrenOf p = []
    · simp [Server.step, hf, hv, hc]; exact .ok n hf (by omega) hc
    · simp [Server.step, hf, hv, hc]; exact .notEmpty n hf hc

theorem step_set_ok {s : Server} (sid : Sid) {p : Path} (d : String) {n : ZNode} (h : s.find? p = some n) :
    s.step sid (.set p d n.version) =
      (s.put p { n with data := d, version := n.version + 1 }, .stat (n.version + 1)) := by
  simp [Server.step, h]

theorem step_delete_ok {s : Server} (sid : Sid) {p : Path} {n : ZNode} (h : s.find? p = some n)
    (hc : s.childrenOf p = []) : s.step sid (.delete p n.version) = (s.erase p, .deleted) := by
  simp [Server.step, h, hc]

theorem step_upd (s : Server) (sid : Sid) (pr : Prim) : Upd s sid (s.step sid pr).1 := by
  cases pr with
  | get p => rw [step_get_fst]; exact .same
  | children p => rw [step_children_fst]; exact .same
  | create p d eph =>
    generalize hx : s.step sid (.create p d eph) = x
    cases step_created hx with
    | ok hp hnone hpar => exact .add p _ hp hnone hpar (by cases eph <;> simp)
    | exists_ | noParent | ephParent => exact .same
  | set p d v =>
    generalize hx : s.step sid (.set p d v) = x
    cases step_written hx with
    | ok n hn => exact .replace p n _ hn rfl
    | noNode | badVersion => exact .same
  | delete p v =>
    generalize hx : s.step sid (.delete p v) = x
    cases step_deleted hx with
    | ok _ _ _ hc => exact .remove p hc
    | noNode | badVersion | notEmpty => exact .same

theorem find?_expire (s : Server) (sid : Sid) (p : Path) (nd : (s.nodes.map (·.1)).Nodup) :
    (s.expire sid).find? p = (s.find? p).filter (·.owner != sid) := by
  have nd' : ((s.expire sid).nodes.map (·.1)).Nodup := (List.filter_sublist.map _).nodup nd
  ext n
  simp only [Option.filter_eq_some_iff, bne_iff_ne]
  constructor
  · intro h
    have := find?_mem h
    simp only [Server.expire, List.mem_filter, bne_iff_ne] at this
    exact ⟨mem_lk nd this.1, this.2⟩
  · intro ⟨h, ho⟩
    exact mem_lk nd' (by simpa [Server.expire] using ⟨find?_mem h, ho⟩)

end ZkLemmas
