/- Lemmas for C02's protocol-level safety theorem (MysyncProofs/C02Safety.lean). -/
import MysyncModel.Proto.Safety
import MysyncProofs.Lemmas.QuorumSpec
import MysyncProofs.Lemmas.ListFacts

namespace SafetyLemmas
open Safety Gen.SwitchHelper

-- (the two quorum facts need no sign assumption on the configured count)
theorem quorum_ge (sh : SwitchHelper) (l : List String) :
    (l.length : Int) - GetRequiredWaitSlaveCount sh l ≤ GetFailoverQuorum sh l := by
  rw [QuorumSpec.quorum_spec]
  omega

theorem quorum_meets (sh : SwitchHelper) (l : List String) (m : String) (A F : List String)
    (hm : m ∈ l) (hA : A.Nodup) (hAl : ∀ a ∈ A, a ∈ l) (hmA : m ∉ A)
    (hreq : GetRequiredWaitSlaveCount sh l ≤ (A.length : Int))
    (hF : F.Nodup) (hFl : ∀ f ∈ F, f ∈ l) (hq : GetFailoverQuorum sh l ≤ (F.length : Int)) :
    ∃ f ∈ F, f ∈ m :: A := by
  apply Classical.byContradiction
  intro hcon
  have hlen := List.Nodup.length_add_le_of_disjoint hF (List.nodup_cons.mpr ⟨hmA, hA⟩) hFl
    (List.cons_subset.mpr ⟨hm, hAl⟩) fun f hf hfa => hcon ⟨f, hf, hfa⟩
  have hqg := quorum_ge sh l
  simp only [List.length_cons] at hlen
  omega

theorem has_add_of_has (σ : St) (hs : List Host) (ts : List Txn) (h : Host) (t : Txn)
    (hh : has σ h t = true) : has { σ with recv := add σ hs ts } h t = true := by
  simp only [has, add] at hh ⊢
  split
  · simp [List.contains_iff_mem.mp hh]
  · exact hh

theorem has_add_of_mem (σ : St) (hs : List Host) (t : Txn) (h : Host) (hh : h ∈ hs) :
    has { σ with recv := add σ hs [t] } h t = true := by
  simp [has, add, hh]

/-- what the invariant says of one acknowledged transaction: the master has it, and so does a member of every
duplicate-free set of listed hosts that would pass the quorum re-count -/
def Safe (sh : SwitchHelper) (σ : St) (t : Txn) : Prop :=
  has σ σ.m t = true ∧
  ∀ F : List Host, (∀ f ∈ F, f ∈ σ.l) → F.Nodup → GetFailoverQuorum sh σ.l ≤ (F.length : Int) →
    ∃ f ∈ F, has σ f t = true

theorem Safe.add {sh : SwitchHelper} {σ : St} {t : Txn} (h : Safe sh σ t) (hs : List Host) (ts : List Txn) :
    Safe sh { σ with recv := add σ hs ts } t :=
  ⟨has_add_of_has σ _ _ _ _ h.1, fun F hFl hF hq =>
    let ⟨f, hf, hft⟩ := h.2 F hFl hF hq
    ⟨f, hf, has_add_of_has σ _ _ _ _ hft⟩⟩

def Inv (sh : SwitchHelper) (σ : St) : Prop := σ.m ∈ σ.l ∧ ∀ t ∈ σ.acked, Safe sh σ t

theorem inv_commit (sh : SwitchHelper) (σ : St) (t : Txn) (A : List Host) (hinv : Inv sh σ)
    (hen : enabled sh σ (.commit t A) = true) :
    Inv sh { σ with recv := add σ (σ.m :: A) [t], acked := t :: σ.acked } := by
  simp only [enabled, Bool.and_eq_true, List.all_eq_true, decide_eq_true_eq, bne_iff_ne, ne_eq,
    List.contains_eq_mem] at hen
  obtain ⟨⟨hall, hdup⟩, hreq⟩ := hen
  refine ⟨hinv.1, List.forall_mem_cons.mpr ⟨⟨has_add_of_mem σ _ t σ.m List.mem_cons_self, ?_⟩,
    fun t' ht' => (hinv.2 t' ht').add _ _⟩⟩
  -- the new transaction is on the master and on `req` listed replicas: every quorum meets them
  intro F hFl hF hq
  obtain ⟨f, hf, hfa⟩ := quorum_meets sh σ.l σ.m A F hinv.1 (List.nodup_of_eraseDups_length A hdup)
    (fun a h => (hall a h).1) (fun h => (hall σ.m h).2 rfl) hreq hF hFl hq
  exact ⟨f, hf, has_add_of_mem σ (σ.m :: A) t f hfa⟩

theorem inv_failover (sh : SwitchHelper) (σ : St) (n : Host) (F : List Host) (hinv : Inv sh σ)
    (hen : enabled sh σ (.failover n F) = true) :
    Inv sh { σ with m := n } := by
  simp only [enabled, Bool.and_eq_true, List.all_eq_true, decide_eq_true_eq, List.contains_eq_mem] at hen
  obtain ⟨⟨⟨⟨hFl, hdup⟩, hn⟩, hq⟩, hcatch⟩ := hen
  refine ⟨hFl n hn, fun t ht => ⟨?_, (hinv.2 t ht).2⟩⟩
  -- the frozen set is a quorum, so one of its members has `t`, and `n` caught up with it
  obtain ⟨f, hf, hft⟩ := (hinv.2 t ht).2 F hFl (List.nodup_of_eraseDups_length F hdup) hq
  exact hcatch f hf t (by simpa [has] using hft)

theorem inv_step (sh : SwitchHelper) (σ : St) (s : Step) (hinv : Inv sh σ) : Inv sh (step sh σ s) := by
  unfold step
  split
  · exact hinv
  next hen =>
    rw [Bool.not_eq_true, Bool.not_eq_false'] at hen
    cases s with
    | commit t A => exact inv_commit sh σ t A hinv hen
    | replicate h T => exact ⟨hinv.1, fun t ht => (hinv.2 t ht).add _ _⟩
    | failover n F => exact inv_failover sh σ n F hinv hen

theorem inv_run (sh : SwitchHelper) (steps : List Step) (σ : St) (h : Inv sh σ) : Inv sh (run sh σ steps) :=
  List.foldlRecOn steps _ h fun σ hσ s _ => inv_step sh σ s hσ

end SafetyLemmas
