/-
Candidate selection (C13's most-recent scan, C14, and the membership facts the switchover lemmas need).  The scans of
`findMostRecent` and `mostPriority` are folds whose step returns one of its two arguments: what a step guarantees is
stated once (`pickBetter_spec`, `priorityStep_cases`), the induction is `List.foldl_select`.  `mostDesirableFuel` is
taken row by row (`fun_induction`).
-/
import MysyncModel.Select
import MysyncProofs.Lemmas.ListFacts
import MysyncProofs.Lemmas.GtidLemmas

namespace SelectLemmas
open Gtid Select GtidLemmas

theorem pickBetter_or (a q : Pos) : pickBetter a q = a ∨ pickBetter a q = q := by
  unfold pickBetter
  split <;> split <;> simp

/-- the order the scans maximise: `r` has all of `p`'s transactions and, if `p` has all of `r`'s as well,
no more lag than `p` -/
def Covers (r p : Pos) : Prop := GSubset p.gtid r.gtid ∧ (GSubset r.gtid p.gtid → r.lag ≤ p.lag)

theorem Covers.refl (p : Pos) : Covers p p := ⟨GSubset.refl _, fun _ => Int.le_refl _⟩

theorem Covers.trans {r a p : Pos} (h1 : Covers r a) (h2 : Covers a p) : Covers r p :=
  ⟨h2.1.trans h1.1, fun h => Int.le_trans (h1.2 (h.trans h2.1)) (h2.2 (h1.1.trans h))⟩

theorem pickBetter_spec (a q : Pos) (ha : WF a.gtid) (hq : WF q.gtid)
    (hc : GSubset a.gtid q.gtid ∨ GSubset q.gtid a.gtid) :
    Covers (pickBetter a q) a ∧ Covers (pickBetter a q) q := by
  unfold pickBetter
  by_cases he : equal q.gtid a.gtid = true
  · obtain ⟨haq, hqa⟩ := (equal_iff q.gtid a.gtid hq ha).1 he
    rw [if_pos he]
    by_cases hl : q.lag < a.lag
    · rw [if_pos hl]
      exact ⟨⟨haq, fun _ => Int.le_of_lt hl⟩, .refl q⟩
    · rw [if_neg hl]
      exact ⟨.refl a, hqa, fun _ => Int.not_lt.1 hl⟩
  · rw [if_neg he]
    have hne : ¬ (GSubset a.gtid q.gtid ∧ GSubset q.gtid a.gtid) :=
      fun h => he ((equal_iff q.gtid a.gtid hq ha).2 h)
    by_cases hcn : contain q.gtid a.gtid = true
    · have haq := (contain_iff q.gtid a.gtid hq ha).1 hcn
      rw [if_pos hcn]
      exact ⟨⟨haq, fun h => absurd ⟨haq, h⟩ hne⟩, .refl q⟩
    · rw [if_neg hcn]
      have hnaq : ¬ GSubset a.gtid q.gtid := fun h => hcn ((contain_iff q.gtid a.gtid hq ha).2 h)
      exact ⟨.refl a, hc.resolve_left hnaq, fun h => absurd h hnaq⟩

theorem priorityStep_cases (a q : Pos) :
    (a.prio < q.prio ∧ priorityStep a q = q) ∨
    (a.prio = q.prio ∧ priorityStep a q = pickBetter a q) ∨
    (q.prio < a.prio ∧ priorityStep a q = a) := by
  unfold priorityStep
  by_cases h1 : a.prio < q.prio
  · exact Or.inl ⟨h1, if_pos h1⟩
  · rw [if_neg h1]
    by_cases h2 : a.prio = q.prio
    · exact Or.inr (Or.inl ⟨h2, if_pos (beq_iff_eq.2 h2)⟩)
    · exact Or.inr (Or.inr ⟨by omega, if_neg (mt beq_iff_eq.1 h2)⟩)

theorem priorityStep_or (a q : Pos) : priorityStep a q = a ∨ priorityStep a q = q := by
  rcases priorityStep_cases a q with ⟨_, e⟩ | ⟨_, e⟩ | ⟨_, e⟩ <;> rw [e]
  · exact Or.inr rfl
  · exact pickBetter_or a q
  · exact Or.inl rfl

theorem priorityStep_prio (a q : Pos) :
    a.prio ≤ (priorityStep a q).prio ∧ q.prio ≤ (priorityStep a q).prio := by
  rcases priorityStep_cases a q with ⟨h, e⟩ | ⟨h, e⟩ | ⟨h, e⟩ <;> rw [e]
  · omega
  · rcases pickBetter_or a q with e | e <;> rw [e] <;> omega
  · omega

theorem scan_mem (c : Pos) (rest : List Pos) : scanMostRecent c rest ∈ c :: rest :=
  List.foldl_select_mem pickBetter_or c rest

theorem scan_max (M c : Pos) (rest : List Pos) (hM : M ∈ c :: rest)
    (hwf : ∀ p ∈ c :: rest, WF p.gtid) (hsub : ∀ p ∈ c :: rest, GSubset p.gtid M.gtid) :
    GSubset M.gtid (scanMostRecent c rest).gtid :=
  -- `R r p`: once `p = M` has been scanned, the running choice `r` contains `M`.  Both obligations are
  -- `pickBetter_spec`; the two sets it compares are comparable because one of them is, as a set, `M`.
  List.foldl_select_all pickBetter_or
    (U := fun p => WF p.gtid ∧ GSubset p.gtid M.gtid) (R := fun r p => p = M → GSubset M.gtid r.gtid)
    (fun a q _ ha hq h e =>
      (h e).trans (pickBetter_spec a q ha.1 hq.1 (Or.inr (hq.2.trans (h e)))).1.1)
    (fun a q ha hq e => e ▸ (pickBetter_spec a q ha.1 hq.1 (Or.inl (e ▸ ha.2))).2.1)
    c rest (fun q hq => ⟨hwf q hq, hsub q hq⟩) (fun e => e ▸ GSubset.refl _) M hM rfl

theorem detectSplitbrain_eq_false {ps : List Pos} {m : Pos} :
    detectSplitbrain ps m = false ↔ ∀ n ∈ ps, contain m.gtid n.gtid = true := by
  simp [detectSplitbrain]

theorem findMostRecent_cons (p : Pos) (r : List Pos) :
    findMostRecent (p :: r) =
      if detectSplitbrain (p :: r) (scanMostRecent p r) then .splitBrain else .node (scanMostRecent p r) :=
  rfl

theorem findMostRecent_mem {ps : List Pos} {mr : Pos} (h : findMostRecent ps = .node mr) : mr ∈ ps := by
  cases ps with
  | nil => cases h
  | cons p r =>
    rw [findMostRecent_cons] at h
    split at h
    · cases h
    · cases h; exact scan_mem p r

theorem mostRecent_spec (ps : List Pos) (hne : ps ≠ []) (hwf : ∀ p ∈ ps, WF p.gtid) :
    match findMostRecent ps with
    | .panic => False
    | .node m => m ∈ ps ∧ ∀ p ∈ ps, GSubset p.gtid m.gtid
    | .splitBrain => ¬ ∃ m ∈ ps, ∀ p ∈ ps, GSubset p.gtid m.gtid := by
  cases ps with
  | nil => exact absurd rfl hne
  | cons p r =>
    have hmem := scan_mem p r
    have hc : ∀ n ∈ p :: r, contain (scanMostRecent p r).gtid n.gtid = true ↔
        GSubset n.gtid (scanMostRecent p r).gtid :=
      fun n hn => contain_iff _ _ (hwf _ hmem) (hwf n hn)
    rw [findMostRecent_cons]
    cases hd : detectSplitbrain (p :: r) (scanMostRecent p r)
    · rw [detectSplitbrain_eq_false] at hd
      exact ⟨hmem, fun n hn => (hc n hn).1 (hd n hn)⟩
    · rintro ⟨M, hM, hall⟩
      have := detectSplitbrain_eq_false.2 fun n hn =>
        (hc n hn).2 ((hall n hn).trans (scan_max M p r hM hwf hall))
      rw [hd] at this
      cases this

theorem mostPriority_eq_none {ps : List Pos} : mostPriority ps = none ↔ ps = [] := by
  cases ps <;> simp [mostPriority]

theorem mostPriority_mem {ps : List Pos} {top : Pos} (ht : mostPriority ps = some top) : top ∈ ps := by
  cases ps with
  | nil => cases ht
  | cons p r => cases ht; exact List.foldl_select_mem priorityStep_or p r

theorem mostPriority_max {ps : List Pos} {top : Pos} (ht : mostPriority ps = some top) :
    ∀ p ∈ ps, p.prio ≤ top.prio := by
  cases ps with
  | nil => cases ht
  | cons p r =>
    cases ht
    exact List.foldl_select_all priorityStep_or (U := fun _ => True) (R := fun r p => p.prio ≤ r.prio)
      (fun a q _ _ _ h => Int.le_trans h (priorityStep_prio a q).1)
      (fun a q _ _ => (priorityStep_prio a q).2) p r (fun _ _ => trivial) (Int.le_refl _)

/-- among the candidates of priority `M`, the running choice `r` accounts for `p` -/
def Dominates (M : Int) (r p : Pos) : Prop := p.prio = M → r.prio = M ∧ Covers r p

theorem priorityStep_tie {M : Int} {U : Pos → Prop} (hwf : ∀ p, U p → WF p.gtid)
    (hle : ∀ p, U p → p.prio ≤ M)
    (hchain : ∀ p q, U p → U q → p.prio = M → q.prio = M →
      GSubset p.gtid q.gtid ∨ GSubset q.gtid p.gtid)
    (a q : Pos) (ha : U a) (hq : U q) :
    (∀ p, Dominates M a p → Dominates M (priorityStep a q) p) ∧ Dominates M (priorityStep a q) q := by
  have hleq := hle q hq
  have hlea := hle a ha
  rcases priorityStep_cases a q with ⟨h, e⟩ | ⟨h, e⟩ | ⟨h, e⟩ <;> rw [e]
  · exact ⟨fun p hp hpM => by have := (hp hpM).1; omega, fun hqM => ⟨hqM, .refl q⟩⟩
  · have hb : (pickBetter a q).prio = a.prio := by
      rcases pickBetter_or a q with e | e <;> rw [e, h]
    -- `pickBetter` only matters when both have priority `M`, and then the sets are comparable
    have spec : a.prio = M → _ := fun haM =>
      pickBetter_spec a q (hwf a ha) (hwf q hq) (hchain a q ha hq haM (h ▸ haM))
    exact ⟨fun p hp hpM => ⟨hb.trans (hp hpM).1, (spec (hp hpM).1).1.trans (hp hpM).2⟩,
      fun hqM => ⟨hb.trans (h.trans hqM), (spec (h.trans hqM)).2⟩⟩
  · exact ⟨fun p hp => hp, fun hqM => by omega⟩

theorem mDF_node (bound : Int) (fuel : Nat) (ps : List Pos) (r : Pos)
    (h : mostDesirableFuel bound fuel ps = .node r) :
    r ∈ ps ∧ ∀ top, mostPriority ps = some top → r = top ∨ r.lag < top.lag - bound := by
  fun_induction mostDesirableFuel bound fuel ps with
  | case1 | case2 => cases h
  | case3 _ ps top ht | case4 _ ps top ht =>
    cases h
    exact ⟨mostPriority_mem ht, fun t e => Or.inl (Option.some.inj (ht.symm.trans e))⟩
  | case5 _ ps top ht _ more _ ih =>
    obtain ⟨hm, hlag⟩ := List.mem_filter.1 (ih h).1
    refine ⟨hm, fun t e => Or.inr ?_⟩
    cases Option.some.inj (ht.symm.trans e)
    exact of_decide_eq_true hlag

theorem mDF_terminates (bound : Int) (hb : 0 ≤ bound) (fuel : Nat) (ps : List Pos)
    (h : ps.length < fuel) : mostDesirableFuel bound fuel ps ≠ .outOfFuel := by
  fun_induction mostDesirableFuel bound fuel ps with
  | case1 => omega
  | case2 | case3 | case4 => nofun
  | case5 _ ps top ht _ more _ ih =>
    -- the top-priority candidate itself is not "much fresher", so the list shrinks
    have : more.length < ps.length :=
      List.length_filter_lt_length_iff_exists.2
        ⟨top, mostPriority_mem ht, by simp only [decide_eq_true_eq]; omega⟩
    exact ih (by omega)

/-- "destination node not found" only for an empty candidate list -/
theorem mDF_notFound (bound : Int) (fuel : Nat) (ps : List Pos)
    (h : mostDesirableFuel bound fuel ps = .notFound) : ps = [] := by
  fun_induction mostDesirableFuel bound fuel ps with
  | case1 | case3 | case4 => cases h
  | case2 _ ps ht => exact mostPriority_eq_none.mp ht
  | case5 _ _ _ _ _ more hne ih => exact absurd (List.isEmpty_iff.2 (ih h)) hne

theorem fold_priorityStep_eq (c : Int) (r : List Pos) : ∀ acc : Pos, acc.prio = c →
    (∀ q ∈ r, q.prio = c) → r.foldl priorityStep acc = r.foldl pickBetter acc := by
  induction r with
  | nil => intro acc _ _; rfl
  | cons x xs ih =>
    intro acc ha hr
    have hx : x.prio = c := hr x List.mem_cons_self
    rcases priorityStep_cases acc x with ⟨h, _⟩ | ⟨_, e⟩ | ⟨h, _⟩
    · omega
    · rw [List.foldl_cons, List.foldl_cons, e]
      apply ih
      · rcases pickBetter_or acc x with e | e <;> rw [e] <;> assumption
      · intro q hq; exact hr q (List.mem_cons_of_mem _ hq)
    · omega

end SelectLemmas
