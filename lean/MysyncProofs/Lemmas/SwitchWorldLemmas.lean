/-
Lemmas for the world-model theorems of C07 (MysyncProofs/C07World.lean).  A step list acts server by server (`effAll`); for
safety only the steps that PROMOTE a host matter (`promotes`).  In a `Good` world every oracle of `view` succeeds, so the
run is the closed form `R1 ++ R2 ++ R3`, or its freeze phases `RA` alone when the quorum check fails: either way a part that
promotes nobody and freezes everybody, then steps that promote only `nmH hosts t` (`runOf_shape`).
-/
import MysyncModel.App.SwitchWorld
import MysyncProofs.Lemmas.SwitchoverLemmas
import MysyncProofs.Lemmas.SelectLemmas
import MysyncProofs.Lemmas.QuorumSpec
import MysyncProofs.Lemmas.ListFacts

namespace C07
open SwitchWorld

def writers (w : World) : List String := (w.srvs.filter fun (_, s) => !s.ro).map (·.1)

end C07

namespace SwitchWorldLemmas
open NS Switchover SwitchWorld SwitchoverLemmas Select

/-- effect of one step on the server registered under `k` -/
def eff (k : String) (s : Srv) : Step → Srv
  | .freezeRO h true => if k == h then { s with ro := true } else s
  | .stopIO h true => if k == h then { s with io := false } else s
  | .setOnline h true => if k == h then { s with offline := false } else s
  | .changeMaster h to true => if k == h then { s with source := some to, io := true, sql := true } else s
  | .stopSlave h true => if k == h then { s with io := false, sql := false } else s
  | .resetSlaveAll h true => if k == h then { s with source := none, io := false, sql := false } else s
  | .setWritable h true => if k == h then { s with ro := false } else s
  | _ => s

/-- effect of a step list on the server registered under `k` -/
def effAll (k : String) (s : Srv) (l : List Step) : Srv := l.foldl (eff k) s

def effM (m : String) : Step → String
  | .setMasterKey h true => h
  | _ => m

theorem upd_eq (w : World) (h : String) (f : Srv → Srv) :
    w.upd h f = { w with srvs := w.srvs.map fun p => (p.1, if p.1 == h then f p.2 else p.2) } := by
  simp only [World.upd]
  congr 1
  apply List.map_congr_left
  rintro ⟨k, s⟩ _
  by_cases hk : (k == h) = true <;> simp [hk]

theorem upd_master (w : World) (h : String) (f : Srv → Srv) : (w.upd h f).master = w.master := rfl
theorem upd_active (w : World) (h : String) (f : Srv → Srv) : (w.upd h f).active = w.active := rfl

theorem apply_eq (w : World) (st : Step) :
    apply w st = { w with srvs := w.srvs.map fun p => (p.1, eff p.1 p.2 st), master := effM w.master st } := by
  have mid : w.srvs.map (fun p => (p.1, p.2)) = w.srvs := by simp
  fun_cases apply w st <;> simp only [eff, effM, upd_eq, mid]

theorem applyAll_cons (w : World) (st : Step) (r : List Step) : applyAll w (st :: r) = applyAll (apply w st) r := rfl
theorem applyAll_append (w : World) (a b : List Step) : applyAll w (a ++ b) = applyAll (applyAll w a) b := by
  simp [applyAll, List.foldl_append]
theorem effAll_cons (k : String) (s : Srv) (st : Step) (r : List Step) : effAll k s (st :: r) = effAll k (eff k s st) r := rfl
theorem effAll_nil (k : String) (s : Srv) : effAll k s [] = s := rfl
theorem effAll_append (k : String) (s : Srv) (a b : List Step) : effAll k s (a ++ b) = effAll k (effAll k s a) b := by
  simp [effAll, List.foldl_append]

theorem applyAll_eq (l : List Step) : ∀ w : World,
    applyAll w l = { w with srvs := w.srvs.map fun p => (p.1, effAll p.1 p.2 l), master := l.foldl effM w.master } := by
  induction l with
  | nil => intro w; simp [applyAll, effAll]
  | cons st r ih =>
    intro w
    rw [applyAll_cons, ih, apply_eq]
    simp [effAll, List.map_map, Function.comp_def]

theorem applyAll_srvs (l : List Step) (w : World) :
    (applyAll w l).srvs = w.srvs.map fun p => (p.1, effAll p.1 p.2 l) := by rw [applyAll_eq]

theorem applyAll_active (l : List Step) (w : World) : (applyAll w l).active = w.active := by rw [applyAll_eq]

theorem applyAll_master (l : List Step) (w : World) : (applyAll w l).master = l.foldl effM w.master := by rw [applyAll_eq]

theorem applyAll_keys (l : List Step) (w : World) : (applyAll w l).srvs.map (·.1) = w.srvs.map (·.1) := by
  rw [applyAll_srvs, List.map_map]
  rfl

/-- the host a step promotes: makes writable, or records as the master -/
def promotes : Step → Option String
  | .setWritable h true | .setMasterKey h true => some h
  | _ => none

/-- `l` promotes only hosts that satisfy `Q` (nobody: for every `Q`) -/
def Promotes (l : List Step) (Q : String → Prop) : Prop := ∀ st ∈ l, ∀ h, promotes st = some h → Q h

theorem Promotes.mono {l : List Step} {Q Q' : String → Prop} (h : Promotes l Q) (hq : ∀ k, Q k → Q' k) : Promotes l Q' :=
  fun st hst k e => hq k (h st hst k e)

theorem Promotes.take {l : List Step} {Q : String → Prop} (h : Promotes l Q) (j : Nat) : Promotes (l.take j) Q :=
  fun st hst => h st (List.mem_of_mem_take hst)

theorem Promotes.append {a b : List Step} {Q : String → Prop} (ha : Promotes a Q) (hb : Promotes b Q) :
    Promotes (a ++ b) Q :=
  fun st hst => (List.mem_append.mp hst).elim (ha st) (hb st)

theorem Promotes.left {a b : List Step} {Q : String → Prop} (h : Promotes (a ++ b) Q) : Promotes a Q :=
  fun st hst => h st (List.mem_append_left _ hst)

theorem promotes_nobody {l : List Step} (h : ∀ st ∈ l, promotes st = none) (Q : String → Prop) : Promotes l Q := by
  intro st hst k e
  rw [h st hst] at e
  cases e

theorem eff_ro {k : String} {s : Srv} {st : Step} (hp : promotes st ≠ some k) (hs : s.ro = true) :
    (eff k s st).ro = true := by
  fun_cases eff k s st
  -- only two rows touch the flag of `k`: the freeze sets it, `SET read_only = 0` is excluded by `hp`
  case case1 => rfl
  case case13 h hk => exact absurd (congrArg some (beq_iff_eq.mp hk).symm) hp
  all_goals exact hs

theorem effAll_ro {k : String} {l : List Step} (hl : Promotes l (· ≠ k)) :
    ∀ {s : Srv}, s.ro = true ∨ .freezeRO k true ∈ l → (effAll k s l).ro = true := by
  induction l with
  | nil => intro s h; simpa [effAll] using h
  | cons st r ih =>
    intro s h
    rw [effAll_cons]
    refine ih (fun x hx => hl x (List.mem_cons_of_mem _ hx)) ?_
    rcases h with h | h
    · exact Or.inl (eff_ro (fun e => hl st (List.mem_cons_self ..) k e rfl) h)
    · rcases List.mem_cons.mp h with rfl | h
      · exact Or.inl (by simp [eff])
      · exact Or.inr h

theorem Promotes.master {l : List Step} {Q : String → Prop} (hl : Promotes l Q) {w : World} (hm : Q w.master) :
    Q (applyAll w l).master := by
  rw [applyAll_master]
  refine List.foldlRecOn l effM hm fun m hm st hst => ?_
  cases st with
  | setMasterKey h ok =>
    cases ok
    · exact hm
    · exact hl _ hst h rfl
  | _ => exact hm

/-- the worlds of the two runs: the registered servers and the published list are `hosts`, the recorded master is
one of them -/
structure Good (hosts : List String) (w : World) : Prop where
  keys : w.srvs.map (·.1) = hosts
  active : w.active = hosts
  master : w.master ∈ hosts

theorem good_applyAll {hosts : List String} {w : World} (g : Good hosts w) {l : List Step} (hl : Promotes l (· ∈ hosts)) :
    Good hosts (applyAll w l) :=
  ⟨by rw [applyAll_keys, g.keys], by rw [applyAll_active, g.active], hl.master g.master⟩

theorem good_converged {hosts : List String} {m : String} (hm : m ∈ hosts) : Good hosts (converged hosts m) := by
  refine ⟨?_, rfl, hm⟩
  simp [converged, List.map_map, Function.comp_def]

/-- nobody but `x` is writable -/
def W1 (w : World) (x : String) : Prop := ∀ p ∈ w.srvs, p.2.ro = false → p.1 = x

theorem W1_writers {w : World} {x : String} (hnd : (w.srvs.map (·.1)).Nodup) (h : W1 w x) :
    (C07.writers w).length ≤ 1 := by
  apply (List.Nodup.sublist (List.Sublist.map _ List.filter_sublist) hnd).length_le_one_of_forall_eq (m := x)
  intro a ha
  obtain ⟨p, hp, rfl⟩ := List.mem_map.mp ha
  obtain ⟨hp1, hp2⟩ := List.mem_filter.mp hp
  exact h p hp1 (by simpa using hp2)

theorem W1_applyAll {w : World} {x : String} {l : List Step} (hl : Promotes l (· = x)) (h : W1 w x) :
    W1 (applyAll w l) x := by
  intro p hp hro
  rw [applyAll_srvs] at hp
  obtain ⟨q, hq, rfl⟩ := List.mem_map.mp hp
  by_cases hx : q.1 = x
  · exact hx
  · -- `q.1` is not promoted: had it been read-only before, it still were
    refine h q hq (Bool.eq_false_iff.mpr fun hs => ?_)
    rw [effAll_ro (hl.mono fun k e => e ▸ Ne.symm hx) (Or.inl hs)] at hro
    cases hro

theorem W1_converged (hosts : List String) (m : String) : W1 (converged hosts m) m := by
  intro p hp hro
  simp only [converged, List.mem_map] at hp
  obtain ⟨h, _, rfl⟩ := hp
  by_cases hh : h = m
  · exact hh
  · simp [hh] at hro

/-- the cluster view of a world -/
def csOf (w : World) : ClusterState := w.srvs.map fun (h, s) => (h, nodeState s)

/-- the position read off a frozen server -/
def mkPos (h : String) : Pos := { host := h, gtid := GS, lag := 0, prio := 0 }

/-- the request of a planned switchover to `t` -/
abbrev req (t : String) : Manager.Switch := { to := t }

section view
variable (w : World) (sw : Manager.Switch)

theorem view_cs : (view w sw).cs = csOf w := rfl
theorem view_cs2 : (view w sw).cs2 = csOf w := rfl
theorem view_active : (view w sw).active = w.active := rfl
theorem view_sw : (view w sw).sw = sw := rfl
theorem view_oldMaster : (view w sw).oldMaster = w.master := rfl
theorem view_ro (h : String) : (view w sw).ro h = true := rfl
theorem view_io (h : String) : (view w sw).io h = true := rfl
theorem view_repoint (h : String) : (view w sw).repoint h = true := rfl
theorem view_positions : (view w sw).positions = some ((frozen (view w sw)).map mkPos) := rfl
theorem view_oldStatus : (view w sw).oldStatus = .notReplica := rfl
theorem view_catchUp : (view w sw).catchUp = .caught := rfl
/-- every call succeeds; there is no speed-up phase -/
theorem view_flags : (view w sw).optStopOk = true ∧ (view w sw).turbo = false ∧ (view w sw).lock1 = true ∧
    (view w sw).mostRecentOnlineOk = true ∧ (view w sw).catchUpChangeOk = true ∧ (view w sw).lock2 = true ∧
    (view w sw).newMasterOnlineOk = true ∧ (view w sw).setRecoveryOk = true ∧ (view w sw).stopSlaveOk = true ∧
    (view w sw).resetOk = true ∧ (view w sw).writableOk = true ∧ (view w sw).eventsOk = true ∧
    (view w sw).masterKeyOk = true := ⟨rfl, rfl, rfl, rfl, rfl, rfl, rfl, rfl, rfl, rfl, rfl, rfl, rfl⟩

end view

theorem Good.ping {hosts : List String} {w : World} (g : Good hosts w) {h : String} (hh : h ∈ hosts) :
    pingOk (csOf w) h = some true := by
  rw [← g.keys] at hh
  unfold pingOk csOf
  generalize w.srvs = l at hh
  induction l with
  | nil => simp at hh
  | cons a r ih =>
    obtain ⟨k, s⟩ := a
    simp only [List.map_cons, ClusterState.get?]
    split
    · rfl
    · exact ih ((List.mem_cons.mp hh).resolve_left fun e => ‹¬ k = h› e.symm)

theorem dubious_csOf (w : World) : dubiousHAHosts (csOf w) = [] := by
  simp only [dubiousHAHosts, csOf, List.map_eq_nil_iff, List.filter_eq_nil_iff, List.mem_map]
  rintro ⟨k, ns⟩ ⟨⟨k', s⟩, _, he⟩
  cases he
  simp [nodeState]

theorem workList_view (w : World) (t : String) : workList (view w (req t)) = w.active := rfl

theorem frozen_view {hosts : List String} {w : World} (g : Good hosts w) (t : String) : frozen (view w (req t)) = hosts := by
  unfold frozen
  rw [workList_view, g.active, List.filter_eq_self]
  intro h hh
  simp [view_cs, g.ping hh, view_ro, view_io]

theorem psOf_view {hosts : List String} {w : World} (g : Good hosts w) (t : String) :
    psOf (view w (req t)) = hosts.map mkPos := by
  simp [psOf, view_positions, frozen_view g]

theorem equal_GS : Gtid.equal GS GS = true := by decide +kernel
theorem contain_GS : Gtid.contain GS GS = true := by decide +kernel

theorem scan_mkPos (a : String) (l : List String) : scanMostRecent (mkPos a) (l.map mkPos) = mkPos a := by
  unfold scanMostRecent
  induction l with
  | nil => rfl
  | cons b r ih =>
    rw [List.map_cons, List.foldl_cons]
    have : pickBetter (mkPos a) (mkPos b) = mkPos a := by
      simp [pickBetter, mkPos, equal_GS]
    rw [this, ih]

theorem findMostRecent_mkPos {hosts : List String} (hne : hosts ≠ []) :
    findMostRecent (hosts.map mkPos) = .node (mkPos (hosts.headD "")) := by
  obtain ⟨a, l, rfl⟩ := List.exists_cons_of_ne_nil hne
  rw [List.map_cons, SelectLemmas.findMostRecent_cons, scan_mkPos, ← List.map_cons, if_neg]
  · rfl
  · rw [Bool.not_eq_true, SelectLemmas.detectSplitbrain_eq_false]
    intro n hn
    obtain ⟨b, _, rfl⟩ := List.mem_map.mp hn
    exact contain_GS

theorem mrOf_view {hosts : List String} {w : World} (g : Good hosts w) (t : String) (hne : hosts ≠ []) :
    mrOf (view w (req t)) = mkPos (hosts.headD "") := by
  simp [mrOf, psOf_view g, findMostRecent_mkPos hne]

/-- the host that is promoted: the requested one; for a request that names nobody the most recent, which is the first -/
def nmH (hosts : List String) (t : String) : String := if t = "" then hosts.headD "" else t

theorem nmOf_view (cfg : Cfg) {hosts : List String} {w : World} (g : Good hosts w) (t : String) (hne : hosts ≠ []) :
    (nmOf cfg (view w (req t))).host = nmH hosts t := by
  by_cases ht : t = ""
  · subst ht
    have : nmOf cfg (view w (req "")) = mrOf (view w (req "")) := by simp [nmOf, view_sw]
    rw [this, mrOf_view g _ hne]
    rfl
  · rw [nmOf_host_to cfg _ (by simpa [view_sw] using ht)]
    simp [nmH, ht, view_sw]

theorem nmH_mem {hosts : List String} {t : String} (ht : t ∈ hosts) : nmH hosts t ∈ hosts := by
  unfold nmH
  split
  · cases hosts with
    | nil => simp at ht
    | cons a l => simp
  · exact ht

theorem reached_view (cfg : Cfg) {hosts : List String} {w : World} (g : Good hosts w) {t : String} (ht : t ∈ hosts)
    (h2 : 2 ≤ hosts.length) (hq : qOk cfg (view w (req t)) = true) : Reached cfg (view w (req t)) := by
  have hne := List.ne_nil_of_mem ht
  have h1 : hosts.length ≠ 1 := by omega
  -- first the conjunction of the guards alone (the steps of the stages are dropped before anything is rewritten in
  -- them), then each guard with what `view` answers
  simp only [Reached, sPre, sMid, sStop, sChoose, sOpt, pHead, List.cons_append, List.nil_append, List.forall_mem_cons,
    List.not_mem_nil, false_imp_iff, implies_true, and_true]
  simp +contextual [sStopIO, sReject, sFreeze, sOnly, sNode, sPick, roOk, isNode, view_flags, view_cs, view_cs2, view_active,
    view_sw, view_oldMaster, view_ro, view_repoint, view_catchUp, view_positions, workList_view, g.active, dubious_csOf,
    frozen_view g, psOf_view g, findMostRecent_mkPos hne, nmOf_view cfg g t hne, g.ping, g.master, nmH_mem ht, ht, h1, hq]

/-- the freeze phases, up to the quorum check with outcome `q` -/
def RA (hosts : List String) (old : String) (q : Bool) : List Step :=
  [.stopOptimization true] ++ hosts.map (Step.freezeRO · true) ++ (hosts.filter (· != old)).map (Step.stopIO · true) ++
  [.quorumCheck hosts.length q]
/-- up to the point where the new master `nm` is online -/
def R1 (hosts : List String) (old nm mr : String) : List Step :=
  RA hosts old true ++ [.lockCheck 1 true, .positions true, .chosen nm mr] ++
  (if nm != mr then [.setOnline mr true, .changeMaster nm mr true] else []) ++
  [.catchUp .caught, .lockCheck 2 true, .restate true, .setOnline nm true]
/-- everybody else follows `nm` -/
def R2 (hosts : List String) (nm : String) : List Step := (hosts.filter (· != nm)).map (Step.changeMaster · nm true)
/-- `nm` is promoted and recorded -/
def R3 (old nm : String) : List Step :=
  [.setRecovery old true, .stopSlave nm true, .resetSlaveAll nm true, .updateActiveNodes, .setWritable nm true,
   .reenableEvents true, .setMasterKey nm true]

theorem segA_view (cfg : Cfg) {hosts : List String} {w : World} (g : Good hosts w) (t : String) :
    segA cfg (view w (req t)) = RA hosts w.master (qOk cfg (view w (req t))) := by
  have hfreeze : (hosts.map fun h => Step.freezeRO h (roOk (view w (req t)) h)) = hosts.map (Step.freezeRO · true) :=
    List.map_congr_left fun h hh => by simp [roOk, view_cs, g.ping hh, view_ro]
  have hstop : ((hosts.filter (· != w.master)).map
      fun h => Step.stopIO h ((pingOk (view w (req t)).cs h == some true) && (view w (req t)).io h)) =
      (hosts.filter (· != w.master)).map (Step.stopIO · true) :=
    List.map_congr_left fun h hh => by simp [view_cs, g.ping (List.mem_filter.mp hh).1, view_io]
  simp [segA, RA, view_flags, workList_view, g.active, frozen_view g, view_oldMaster, hfreeze, hstop]

theorem runOf_closed (cfg : Cfg) {hosts : List String} {w : World} (g : Good hosts w) {t : String} (ht : t ∈ hosts)
    (h2 : 2 ≤ hosts.length) (hq : qOk cfg (view w (req t)) = true) :
    runOf cfg w (req t) = R1 hosts w.master (nmH hosts t) (hosts.headD "") ++ R2 hosts (nmH hosts t) ++ R3 w.master (nmH hosts t) := by
  have hne := List.ne_nil_of_mem ht
  have hnm := nmOf_view cfg g t hne
  have htg : targets (view w (req t)) (nmOf cfg (view w (req t))) = hosts.filter (· != nmH hosts t) := by
    unfold targets
    rw [workList_view, g.active, hnm]
    exact List.filter_congr fun h hh => by simp [view_cs2, g.ping hh]
  have hmr : (mrOf (view w (req t))).host = hosts.headD "" := congrArg Pos.host (mrOf_view g t hne)
  have hrec : needRecovery (view w (req t)) (mrOf (view w (req t))) = true := rfl
  unfold runOf
  rw [reached_eq (reached_view cfg g ht h2 hq), goods_early, segA_view cfg g, hq]
  simp only [segB, segD, pFin, pReset, pWritable, pEvents, run_cons, run_nil, htg, hrec, hnm, hmr,
    view_flags, view_catchUp, view_repoint, view_oldMaster, R1, R2, R3]
  cases nmH hosts t != hosts.headD "" <;> simp

theorem runOf_noquorum (cfg : Cfg) {hosts : List String} {w : World} (g : Good hosts w) {t : String} (ht : t ∈ hosts)
    (hq : qOk cfg (view w (req t)) = false) :
    runOf cfg w (req t) = RA hosts w.master false := by
  have hA : ∀ stg ∈ sOpt (view w (req t)) ++ [sFreeze (view w (req t)), sReject (view w (req t)), sStopIO cfg (view w (req t))],
      stg.ok = true := by
    simp only [sOpt, List.cons_append, List.nil_append, List.forall_mem_cons, List.not_mem_nil, false_imp_iff, implies_true,
      and_true]
    simp +contextual [sFreeze, sReject, sStopIO, roOk, view_flags, view_cs, view_active, view_sw, view_oldMaster, view_ro,
      workList_view, g.active, dubious_csOf, g.ping, g.master, ht]
  rw [runOf, quorum_fail_eq hA hq, segA_view cfg g, hq]

theorem qOk_view (cfg : Cfg) {hosts : List String} {w : World} (g : Good hosts w) {t : String} (ht : t ∈ hosts) :
    qOk cfg (view w (req t)) = true ↔ (cfg.semiSync = true → 0 ≤ cfg.waitCount) := by
  unfold qOk
  rw [view_active, g.active, frozen_view g, QuorumSpec.check_isNone, QuorumSpec.quorum_spec, QuorumSpec.req_spec,
    QuorumSpec.tdiv2]
  by_cases hs : cfg.semiSync = true
  · rw [if_pos (show (sh cfg).SemiSync = true from hs)]
    simp only [hs, sh, true_imp_iff]
    have := List.length_pos_of_mem ht
    omega
  · rw [if_neg (show ¬ (sh cfg).SemiSync = true from hs)]
    simpa [hs] using List.ne_nil_of_mem ht

/-- promotion part of `R3`: before and after `SET read_only = 0` -/
def R3a (old nm : String) : List Step :=
  [.setRecovery old true, .stopSlave nm true, .resetSlaveAll nm true, .updateActiveNodes]
def R3b (nm : String) : List Step := [.reenableEvents true, .setMasterKey nm true]

theorem R3_split (old nm : String) : R3 old nm = R3a old nm ++ Step.setWritable nm true :: R3b nm := rfl

theorem RA_quiet (hosts : List String) (old : String) (q : Bool) (Q : String → Prop) : Promotes (RA hosts old q) Q := by
  refine promotes_nobody ?_ Q
  simp only [RA, List.forall_mem_append, List.forall_mem_cons, List.forall_mem_map, List.not_mem_nil, false_imp_iff,
    implies_true, and_true]
  simp only [promotes, implies_true, and_true]

theorem RA_freezes {hosts : List String} (old : String) (q : Bool) {k : String} (hk : k ∈ hosts) :
    Step.freezeRO k true ∈ RA hosts old q := by
  simp [RA, hk]

theorem R1_freezes {hosts : List String} (old nm mr : String) {k : String} (hk : k ∈ hosts) :
    Step.freezeRO k true ∈ R1 hosts old nm mr := by
  simp only [R1, List.mem_append, RA_freezes _ _ hk, true_or]

theorem closed_quiet (hosts : List String) (old nm mr : String) (Q : String → Prop) :
    Promotes (R1 hosts old nm mr ++ R2 hosts nm ++ R3a old nm) Q := by
  refine promotes_nobody ?_ Q
  -- first a conjunction over the steps written in the closed form, then `promotes` on each
  simp only [R1, RA, R2, R3a, List.forall_mem_append, List.forall_mem_cons, List.forall_mem_map, List.forall_mem_ite_nil,
    List.not_mem_nil, false_imp_iff, implies_true, and_true]
  simp only [promotes, implies_true, and_true]

theorem runOf_shape (cfg : Cfg) {hosts : List String} {w : World} (g : Good hosts w) {t : String} (ht : t ∈ hosts)
    (h2 : 2 ≤ hosts.length) :
    ∃ P T, runOf cfg w (req t) = P ++ T ∧ (∀ Q, Promotes P Q) ∧ (∀ k ∈ hosts, Step.freezeRO k true ∈ P) ∧
      Promotes T (· = nmH hosts t) := by
  cases hq : qOk cfg (view w (req t)) with
  | true =>
    refine ⟨_, Step.setWritable (nmH hosts t) true :: R3b (nmH hosts t), ?_,
      closed_quiet hosts w.master (nmH hosts t) (hosts.headD ""), fun k hk => ?_, ?_⟩
    · rw [runOf_closed cfg g ht h2 hq, R3_split, ← List.append_assoc]
    · exact List.mem_append_left _ (List.mem_append_left _ (R1_freezes _ _ _ hk))
    · simp only [Promotes, R3b, List.forall_mem_cons, List.not_mem_nil, false_imp_iff, implies_true, and_true]
      simp [promotes]
  | false =>
    exact ⟨_, [], by rw [runOf_noquorum cfg g ht hq, List.append_nil], RA_quiet _ _ _, fun k => RA_freezes _ _,
      fun _ h => nomatch h⟩

theorem effAll_repoint (k nm : String) (l : List String) : ∀ s : Srv,
    effAll k s (l.map (Step.changeMaster · nm true)) =
      if k ∈ l then { s with source := some nm, io := true, sql := true } else s := by
  induction l with
  | nil => intro s; simp [effAll]
  | cons b r ih =>
    intro s
    rw [List.map_cons, effAll_cons, ih]
    by_cases hb : k = b
    · subst hb
      by_cases hr : k ∈ r <;> simp [eff, hr]
    · by_cases hr : k ∈ r <;> simp [eff, hr, hb]

theorem canonical_closed {hosts : List String} {w : World} (g : Good hosts w) {nm : String} (old mr : String) :
    canonical (applyAll w (R1 hosts old nm mr ++ R2 hosts nm ++ R3 old nm)) = true ∧
    (applyAll w (R1 hosts old nm mr ++ R2 hosts nm ++ R3 old nm)).master = nm := by
  have hm : (applyAll w (R1 hosts old nm mr ++ R2 hosts nm ++ R3 old nm)).master = nm := by
    rw [applyAll_master, List.foldl_append]
    simp [R3, effM]
  refine ⟨?_, hm⟩
  unfold canonical
  rw [hm, applyAll_srvs, List.all_map, List.all_eq_true]
  rintro ⟨k, s⟩ hmem
  have hk : k ∈ hosts := g.keys ▸ List.mem_map_of_mem (f := (·.1)) hmem
  simp only [Function.comp]
  rw [effAll_append, effAll_append]
  by_cases hkn : k = nm
  · subst hkn
    simp [R3, effAll, eff]
  · -- frozen in `R1`, re-pointed in `R2`, untouched by `R3`
    have hro : (effAll k s (R1 hosts old nm mr)).ro = true :=
      effAll_ro (closed_quiet hosts old nm mr _).left.left (Or.inr (R1_freezes _ _ _ hk))
    have hmem2 : k ∈ hosts.filter (· != nm) := by simp [hk, hkn]
    rw [R2, effAll_repoint, if_pos hmem2]
    simp [R3, effAll_cons, effAll_nil, eff, hkn, hro]

/-- from any `Good` world the run ends canonical with `nmH hosts t` recorded: the requested host, and for a request that
names nobody (`to = ""`, also when a server is registered under the empty name) the first listed host -/
theorem run_completes_unnamed (cfg : Cfg) {hosts : List String} {w : World} (g : Good hosts w) {t : String}
    (ht : t ∈ hosts) (h2 : 2 ≤ hosts.length) (hw : cfg.semiSync = true → 0 ≤ cfg.waitCount) :
    canonical (applyAll w (runOf cfg w (req t))) = true ∧ (applyAll w (runOf cfg w (req t))).master = nmH hosts t := by
  rw [runOf_closed cfg g ht h2 ((qOk_view cfg g ht).mpr hw)]
  exact canonical_closed g _ _

/-- COMPLETION from any `Good` world: the run of a request naming `t` ends canonical with `t` recorded -/
theorem run_completes (cfg : Cfg) {hosts : List String} {w : World} (g : Good hosts w) {t : String} (ht : t ∈ hosts)
    (h2 : 2 ≤ hosts.length) (ht0 : t ≠ "") (hw : cfg.semiSync = true → 0 ≤ cfg.waitCount) :
    canonical (applyAll w (runOf cfg w (req t))) = true ∧ (applyAll w (runOf cfg w (req t))).master = t := by
  have := run_completes_unnamed cfg g ht h2 hw
  rwa [show nmH hosts t = t by simp [nmH, ht0]] at this

/-- CRASH: the world after any prefix of a run from a `Good` world with at most one possible writer is again such a
world -/
theorem run_prefix (cfg : Cfg) {hosts : List String} {w : World} (g : Good hosts w) {t : String} (ht : t ∈ hosts)
    (h2 : 2 ≤ hosts.length) {x : String} (hx : W1 w x) (j : Nat) :
    Good hosts (applyAll w ((runOf cfg w (req t)).take j)) ∧ ∃ y, W1 (applyAll w ((runOf cfg w (req t)).take j)) y := by
  obtain ⟨P, T, e, hP, hf, hT⟩ := runOf_shape cfg g ht h2
  rw [e]
  refine ⟨good_applyAll g ((((hP _).append hT).take j).mono fun k hk => hk ▸ nmH_mem ht), ?_⟩
  rw [List.take_append, applyAll_append]
  by_cases hj : j ≤ P.length
  · -- inside `P`: nobody is promoted
    rw [Nat.sub_eq_zero_of_le hj]
    exact ⟨x, W1_applyAll (l := P.take j) ((hP _).take j) hx⟩
  · -- after `P` everybody is read-only; then only `nmH hosts t` is promoted
    rw [List.take_of_length_le (Nat.le_of_not_le hj)]
    refine ⟨_, W1_applyAll (hT.take _) fun p hp hro => ?_⟩
    rw [applyAll_srvs] at hp
    obtain ⟨q, hq, rfl⟩ := List.mem_map.mp hp
    have hk : q.1 ∈ hosts := g.keys ▸ List.mem_map_of_mem (f := (·.1)) hq
    rw [effAll_ro (hP _) (Or.inr (hf _ hk))] at hro
    cases hro

/-- semi-sync with a negative wait count: the quorum exceeds the list, the run stops after the freeze and leaves
nobody writable -/
theorem run_stalls (cfg : Cfg) {hosts : List String} {w : World} (g : Good hosts w) {t : String} (ht : t ∈ hosts)
    (hs : cfg.semiSync = true) (hw : cfg.waitCount < 0) :
    canonical (applyAll w (runOf cfg w (req t))) = false := by
  have hq : qOk cfg (view w (req t)) = false :=
    Bool.eq_false_iff.mpr fun h => absurd ((qOk_view cfg g ht).mp h hs) (by omega)
  rw [runOf_noquorum cfg g ht hq]
  -- the recorded master stays, and it is frozen
  have hm : (applyAll w (RA hosts w.master false)).master = w.master :=
    Promotes.master (Q := (· = w.master)) (RA_quiet _ _ _ _) rfl
  obtain ⟨p, hp, hpm⟩ := List.mem_map.mp (g.keys ▸ g.master)
  have hro : (effAll p.1 p.2 (RA hosts w.master false)).ro = true :=
    effAll_ro (RA_quiet _ _ _ _) (Or.inr (RA_freezes _ _ (hpm ▸ g.master)))
  unfold canonical
  rw [hm, applyAll_srvs, List.all_map, List.all_eq_false]
  rw [hpm] at hro
  exact ⟨p, hp, by simp [hpm, hro]⟩

end SwitchWorldLemmas
