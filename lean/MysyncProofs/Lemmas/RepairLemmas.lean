/- Lemmas for C10 (MysyncProofs/C10.lean): the three outcomes of `tryRepair`; `repairSlave` as equations on its two
components and where its re-pointing and reset actions come from; a ranking function for the finite abstraction
`absPass`, checked on the whole table. -/
import MysyncModel.App.Repair

namespace RepairLemmas
open NS Repair

theorem tryRepair_some_cases (cfg : Cfg) (s : RepairState) (now : Int) (master : String) (c : Bool) :
    (tryRepair cfg (some s) now master c = ([], some s) ∧
      (cooldownPassed cfg s now = false ∨ suitable cfg s = none)) ∨
    (tryRepair cfg (some s) now master c =
        ([.startSlave], some { s with startCount := s.startCount + 1, lastAttempt := now }) ∧
      cooldownPassed cfg s now = true ∧ suitable cfg s = some .startSlave ∧ s.startCount < cfg.maxAttempts) ∨
    (tryRepair cfg (some s) now master c =
        ([.resetSlaveAlgorithm master], some { s with resetCount := s.resetCount + 1, lastAttempt := now }) ∧
      cooldownPassed cfg s now = true ∧ suitable cfg s = some .resetSlave ∧ ¬ s.startCount < cfg.maxAttempts ∧
      cfg.aggressive = true ∧ s.resetCount < cfg.maxAttempts) := by
  cases hcd : cooldownPassed cfg s now
  · simp [tryRepair, hcd]
  · by_cases h1 : s.startCount < cfg.maxAttempts
    · have hs : suitable cfg s = some .startSlave := by simp [suitable, h1]
      simp [tryRepair, hcd, hs, h1]
    · by_cases h2 : cfg.aggressive = true ∧ s.resetCount < cfg.maxAttempts
      · have hs : suitable cfg s = some .resetSlave := by simp [suitable, h1, h2.1, h2.2]
        simp [tryRepair, hcd, hs, h1, h2.1, h2.2]
      · have hs : suitable cfg s = none := by
          simp only [suitable, h1, if_false]
          rw [if_neg]
          simpa using h2
        simp [tryRepair, hcd, hs]

theorem tryRepair_none (cfg : Cfg) (now : Int) (master : String) (c : Bool) :
    tryRepair cfg none now master c =
      if c then ([.createRepairState], some { lastAttempt := now }) else ([], none) := by
  cases c <;> simp [tryRepair]

theorem tryRepair_reset_mem (cfg : Cfg) (rs : Option RepairState) (now : Int) (master : String) (c : Bool) (to : String)
    (h : Act.resetSlaveAlgorithm to ∈ (tryRepair cfg rs now master c).1) :
    to = master ∧ cfg.aggressive = true ∧
    ∃ s, rs = some s ∧ cooldownPassed cfg s now = true ∧ s.startCount ≥ cfg.maxAttempts ∧ s.resetCount < cfg.maxAttempts := by
  cases rs with
  | none => rw [tryRepair_none] at h; cases c <;> simp at h
  | some s =>
    rcases tryRepair_some_cases cfg s now master c with ⟨e, _⟩ | ⟨e, _⟩ | ⟨e, hcd, _, h1, ha, h2⟩
    · rw [e] at h; simp at h
    · rw [e] at h; simp at h
    · rw [e] at h
      simp only [List.mem_singleton, Act.resetSlaveAlgorithm.injEq] at h
      exact ⟨h, ha, s, rfl, hcd, by omega, h2⟩

theorem tryRepair_changeMaster_not_mem (cfg : Cfg) (rs : Option RepairState) (now : Int) (master : String) (c : Bool) (to : String) :
    Act.changeMaster to ∉ (tryRepair cfg rs now master c).1 := by
  cases rs with
  | none => rw [tryRepair_none]; cases c <;> simp
  | some s =>
    rcases tryRepair_some_cases cfg s now master c with ⟨e, _⟩ | ⟨e, _⟩ | ⟨e, _⟩ <;> rw [e] <;> simp

theorem markRunning_mem (cfg : Cfg) (rs : Option RepairState) (now : Int) (p : Bool) (a : Act)
    (h : a ∈ (markRunning cfg rs now p).1) : a = .deleteRepairState := by
  unfold markRunning at h
  split at h
  · simp at h
  · split at h <;> simp_all

theorem repairSlave_fst (cfg : Cfg) (host : String) (st : NodeState) (master : String) (rs : Option RepairState)
    (now : Int) (c p : Bool) :
    (repairSlave cfg host st master rs now c p).1 =
      (if st.isReadOnly then [] else [Act.setReadOnly]) ++
      (if st.isMaster then [.setOffline, .semiSyncDisable, .changeMaster master, .setRecovery]
       else if st.isCascade then [.cascade]
       else match st.slave with
        | none => []
        | some sl =>
          (if sl.masterHost != master then [.changeMaster master]
           else if sl.state == .stopped then [.startSlave] else []) ++
          (if sl.state == .error then (if st.permBroken then [] else (tryRepair cfg rs now master c).1)
           else (markRunning cfg rs now p).1)) := by
  have h0 : (if !st.isReadOnly then [Act.setReadOnly] else []) = if st.isReadOnly then [] else [Act.setReadOnly] := by
    cases st.isReadOnly <;> rfl
  fun_cases repairSlave cfg host st master rs now c p
  all_goals simp +zetaDelta [*]

theorem repairSlave_snd (cfg : Cfg) (host : String) (st : NodeState) (master : String) (rs : Option RepairState)
    (now : Int) (c p : Bool) :
    (repairSlave cfg host st master rs now c p).2 =
      (if st.isMaster then rs
       else if st.isCascade then rs
       else match st.slave with
        | none => rs
        | some sl =>
          if sl.state == .error then (if st.permBroken then rs else (tryRepair cfg rs now master c).2)
          else (markRunning cfg rs now p).2) := by
  fun_cases repairSlave cfg host st master rs now c p
  all_goals simp +zetaDelta [*]

theorem repairSlave_changeMaster_mem (cfg : Cfg) (host : String) (st : NodeState) (master : String) (rs : Option RepairState)
    (now : Int) (c p : Bool) (to : String)
    (h : Act.changeMaster to ∈ (repairSlave cfg host st master rs now c p).1) : to = master := by
  have h1 := tryRepair_changeMaster_not_mem cfg rs now master c to
  have h2 : Act.changeMaster to ∉ (markRunning cfg rs now p).1 := fun hh => nomatch markRunning_mem cfg rs now p _ hh
  rw [repairSlave_fst] at h
  -- membership pushed through the `if`s: only the stale-master list and the re-pointing list contain a `changeMaster`
  cases hs : st.slave with
  | none =>
    simp [hs, apply_ite (Act.changeMaster to ∈ ·)] at h
    exact h.2
  | some sl =>
    simp [hs, apply_ite (Act.changeMaster to ∈ ·), h1, h2] at h
    split at h
    · exact h
    · obtain ⟨-, -, hto⟩ := h
      exact hto

theorem repairSlave_reset_mem (cfg : Cfg) (host : String) (st : NodeState) (master : String) (rs : Option RepairState)
    (now : Int) (c p : Bool) (to : String)
    (h : Act.resetSlaveAlgorithm to ∈ (repairSlave cfg host st master rs now c p).1) :
    st.permBroken = false ∧ (∃ sl, st.slave = some sl ∧ sl.state = .error) ∧
    Act.resetSlaveAlgorithm to ∈ (tryRepair cfg rs now master c).1 := by
  have h2 : Act.resetSlaveAlgorithm to ∉ (markRunning cfg rs now p).1 := fun hh => nomatch markRunning_mem cfg rs now p _ hh
  rw [repairSlave_fst] at h
  -- membership pushed through the `if`s: only the list of `tryRepair` can contain a reset
  cases hs : st.slave with
  | none => simp [hs, apply_ite (Act.resetSlaveAlgorithm to ∈ ·)] at h
  | some sl =>
    simp [hs, apply_ite (Act.resetSlaveAlgorithm to ∈ ·), h2] at h
    obtain ⟨-, -, herr, hbroken, hmem⟩ := h
    exact ⟨hbroken, ⟨sl, rfl, herr⟩, hmem⟩

local instance (p : Src → Prop) [DecidablePred p] : Decidable (∀ s, p s) :=
  decidable_of_iff (p .master ∧ p .other ∧ p .none) ⟨fun h s => by cases s <;> simp [h], fun h => ⟨h _, h _, h _⟩⟩
local instance (p : Rep → Prop) [DecidablePred p] : Decidable (∀ r, p r) :=
  decidable_of_iff (p .running ∧ p .stopped ∧ p .errTemp ∧ p .errPerm)
    ⟨fun h r => by cases r <;> simp [h], fun h => ⟨h _, h _, h _, h _⟩⟩
local instance (p : Budget → Prop) [DecidablePred p] : Decidable (∀ b, p b) :=
  decidable_of_iff (p .noState ∧ p .mustWait ∧ p .mayStart ∧ p .mayReset ∧ p .exhausted)
    ⟨fun h b => by cases b <;> simp [h], fun h => ⟨h _, h _, h _, h _, h _⟩⟩

/-- An upper bound on the passes (with the cooldown elapsed) that a state still needs.  0 = canonical or sink.  A
read-only replica of the recorded master in temporary error only has its repair budget left to run down, one class
per pass: `noState`/`mustWait` → `mayStart` → `mayReset` (or `exhausted`, a sink, without aggressive mode) → running,
hence 3, 2, 1.  Everything else is 4: one pass makes it read-only, not claiming master, pointed at the master and
started, i.e. settled or of rank ≤ 3. -/
def rank (n : Abs) : Nat :=
  if n.canonical || n.sink then 0
  else if n.readOnly && !n.claimsMaster && n.src == .master && n.rep == .errTemp then
    match n.budget with
    | .noState | .mustWait => 3
    | .mayStart => 2
    | _ => 1
  else 4

theorem rank_le (n : Abs) : rank n ≤ 4 := by
  fun_cases rank n <;> decide

theorem settled_of_rank (n : Abs) (h : rank n = 0) : n.canonical = true ∨ n.sink = true := by
  revert h
  fun_cases rank n
  case case1 hs => exact fun _ => Bool.or_eq_true _ _ ▸ hs
  all_goals exact fun h => nomatch h

/-- the whole table (960 states × aggressive × the environment's answer): a pass with the cooldown elapsed lowers
the rank; in particular rank 0 (canonical or sink) is kept -/
theorem pass_lowers_rank : ∀ (ro cm : Bool) (s : Src) (r : Rep) (b : Budget) (o m agg c : Bool),
    rank (absPass agg c true ⟨ro, cm, s, r, b, o, m⟩) ≤ rank ⟨ro, cm, s, r, b, o, m⟩ - 1 := by
  -- `absPass` makes the node read-only before it looks at it, so the kernel evaluates the read-only half of the table
  -- only; a writable node has rank 4, and its pass is that of its read-only twin, of rank ≤ 4 - 1
  have half : ∀ (cm : Bool) (s : Src) (r : Rep) (b : Budget) (o m agg c : Bool),
      rank (absPass agg c true ⟨true, cm, s, r, b, o, m⟩) ≤ rank ⟨true, cm, s, r, b, o, m⟩ - 1 := by
    decide +kernel
  intro ro cm s r b o m agg c
  cases ro
  · exact Nat.le_trans (half cm s r b o m agg c) (Nat.sub_le_sub_right (rank_le _) 1)
  · exact half cm s r b o m agg c

theorem rank_absPass (agg c : Bool) (n : Abs) : rank (absPass agg c true n) ≤ rank n - 1 :=
  pass_lowers_rank n.1 n.2 n.3 n.4 n.5 n.6 n.7 agg c

end RepairLemmas
