/- Lemmas for C03, part 1: the continuations of the lock programs `opAcquire` / `opRelease`, named, with their
equations on error replies. -/
import MysyncModel.Dcs.LockSys

namespace LockLemmas
open Zk LockSys

/-- after `create lock self true` of `AcquireLock` -/
def kCre : Resp → Prog Res := fun r =>
  match r with
  | .created => .ret (.bool true)
  | _ => .ret (.bool false)

/-- after the `get lock` of `AcquireLock` -/
def kAcq (p : Path) (self : String) : Resp → Prog Res := fun r =>
  match r with
  | .err .noNode => .call (.create p self true) kCre
  | .data d _ _ => .ret (.bool (d == self))
  | _ => .ret (.bool false)

/-- after the `delete lock ver` of `ReleaseLock` (`n` = attempts left) -/
def kDel (p : Path) (self : String) (n : Nat) : Resp → Prog Res := fun r =>
  match r with
  | .err .connClosed => opRelease p self n
  | _ => .ret .done

/-- after the `get lock` of `ReleaseLock` (`n` = attempts left) -/
def kRel (p : Path) (self : String) (n : Nat) : Resp → Prog Res := fun r =>
  match r with
  | .data d ver _ => if d == self then .call (.delete p ver) (kDel p self n) else .ret .done
  | .err .connClosed => opRelease p self n
  | _ => .ret .done

theorem opAcquire_eq (p : Path) (self : String) : opAcquire p self = .call (.get p) (kAcq p self) := rfl
theorem opRelease_zero (p : Path) (self : String) : opRelease p self 0 = .ret .done := rfl
theorem opRelease_succ (p : Path) (self : String) (n : Nat) :
    opRelease p self (n + 1) = .call (.get p) (kRel p self n) := rfl

theorem kAcq_err (p : Path) (self : String) (e : Err) :
    kAcq p self (.err e) = if e = .noNode then .call (.create p self true) kCre else .ret (.bool false) := by
  cases e <;> rfl

theorem kRel_err (p : Path) (self : String) (n : Nat) (e : Err) :
    kRel p self n (.err e) = if e = .connClosed then opRelease p self n else .ret .done := by
  cases e <;> rfl

theorem kDel_err (p : Path) (self : String) (n : Nat) (e : Err) :
    kDel p self n (.err e) = if e = .connClosed then opRelease p self n else .ret .done := by
  cases e <;> rfl

end LockLemmas
