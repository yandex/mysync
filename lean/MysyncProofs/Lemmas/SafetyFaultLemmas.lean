/-
Helper lemmas for MysyncProofs/C02Fault.lean (the single-fault safety machine with list changes).

The quorum arithmetic is the GENERATED one, used through its specification (`QuorumSpec.req_spec`, in `req_pos`).  The
failover quorum is not used at all: under the single-fault budget every listed host that is not faulty is frozen.
-/
import MysyncModel.Proto.SafetyFault
import MysyncProofs.Lemmas.QuorumSpec
import MysyncProofs.Lemmas.ListFacts

namespace SafetyFaultLemmas
open SafetyF Gen.SwitchHelper

theorem req_pos (sh : SwitchHelper) (l : List String) (h2 : 2 ≤ l.length)
    (hw : 1 ≤ sh.rplSemiSyncMasterWaitForSlaveCount) : 1 ≤ GetRequiredWaitSlaveCount sh l := by
  rw [QuorumSpec.req_spec, QuorumSpec.tdiv2]
  omega

theorem nodup_of_nodupB (l : List Host) (h : nodupB l = true) : l.Nodup :=
  List.nodup_of_eraseDups_length l (of_decide_eq_true h)

theorem alive_iff (σ : St) (h : Host) : alive σ h = true ↔ σ.dead ≠ some h := by
  simp [alive]

theorem not_alive_iff (σ : St) (h : Host) : (!alive σ h) = true ↔ σ.dead = some h := by
  simp [alive]

theorem has_add_of_has (σ : St) (hs : List Host) (ts : List Txn) (h : Host) (t : Txn)
    (hh : has σ h t = true) : has { σ with recv := add σ hs ts } h t = true := by
  simp only [has, add] at hh ⊢
  split
  · simp [List.contains_iff_mem.mp hh]
  · exact hh

theorem has_add_of_mem (σ : St) (hs : List Host) (t : Txn) (h : Host) (hh : h ∈ hs) :
    has { σ with recv := add σ hs [t] } h t = true := by
  simp [has, add, hh]

/-- `has` does not look at the list, the master, the acknowledged set or the faulty host -/
theorem has_congr (σ τ : St) (hr : τ.recv = σ.recv) (h : Host) (t : Txn) : has τ h t = has σ h t := by
  simp only [has, hr]

/-- a listed replica holds `t` -/
def K (σ : St) (t : Txn) : Prop := ∃ a ∈ σ.l, a ≠ σ.m ∧ has σ a t = true
/-- a registered host that is not listed (and is not the master) holds `t` -/
def U (σ : St) (t : Txn) : Prop := ∃ d ∈ σ.hosts, d ∉ σ.l ∧ d ≠ σ.m ∧ has σ d t = true
/-- no replica is listed -/
def S (σ : St) : Prop := ∀ a ∈ σ.l, a = σ.m

theorem S_or_listed_replica (σ : St) : S σ ∨ ∃ a ∈ σ.l, a ≠ σ.m := by
  by_cases h : S σ
  · exact Or.inl h
  · exact Or.inr (by simpa [S] using h)

/-- well-formedness of the configuration (of its components, so that it is literally the same fact for two states
that differ in what was received, acknowledged or failed) -/
structure WF (sh : SwitchHelper) (hosts l : List Host) (m : Host) : Prop where
  hnd : hosts.Nodup
  two : 2 ≤ hosts.length
  lnd : l.Nodup
  ml : m ∈ l
  sub : ∀ h ∈ l, h ∈ hosts
  w : 1 ≤ sh.rplSemiSyncMasterWaitForSlaveCount

/-- what the invariant says of one acknowledged transaction: it is on the master; and on a listed replica, or on an
evicted host, or the master is alone in the list; and when the master is the faulty host, a listed replica (not
faulty, hence frozen by a failover) holds it -/
def Safe (σ : St) (t : Txn) : Prop :=
  has σ σ.m t = true ∧ (K σ t ∨ U σ t ∨ S σ) ∧ (σ.dead = some σ.m → K σ t)

structure Inv (sh : SwitchHelper) (σ : St) : Prop where
  wf : WF sh σ.hosts σ.l σ.m
  safe : ∀ t ∈ σ.acked, Safe σ t

theorem K.add {σ : St} {t : Txn} (hs : List Host) (ts : List Txn) : K σ t → K { σ with recv := add σ hs ts } t
  | ⟨a, hal, ham, hat⟩ => ⟨a, hal, ham, has_add_of_has σ _ _ _ _ hat⟩

theorem Safe.add {σ : St} {t : Txn} (h : Safe σ t) (hs : List Host) (ts : List Txn) :
    Safe { σ with recv := add σ hs ts } t :=
  ⟨has_add_of_has σ _ _ _ _ h.1,
   h.2.1.imp (K.add hs ts)
     (Or.imp_left fun ⟨d, hdh, hdl, hdm, hdt⟩ => ⟨d, hdh, hdl, hdm, has_add_of_has σ _ _ _ _ hdt⟩),
   fun hd => K.add hs ts (h.2.2 hd)⟩

/-- every registered host listed: neither `U` nor `S` is possible -/
theorem K_of_converged {sh : SwitchHelper} {σ : St} (wf : WF sh σ.hosts σ.l σ.m) (hconv : ∀ h ∈ σ.hosts, h ∈ σ.l) {t : Txn}
    (h : K σ t ∨ U σ t ∨ S σ) : K σ t := by
  rcases h with h | h | h
  · exact h
  · obtain ⟨d, hd, hdl, _, _⟩ := h
    exact absurd (hconv d hd) hdl
  · have := wf.hnd.length_le_one_of_forall_eq (fun x hx => h x (hconv x hx))
    have := wf.two
    omega

theorem inv_commit (sh : SwitchHelper) (jg : Bool) (σ : St) (t : Txn) (A : List Host) (hinv : Inv sh σ)
    (hen : enabled sh jg σ (.commit t A) = true) :
    Inv sh { σ with recv := add σ (σ.m :: A) [t], acked := t :: σ.acked } := by
  simp only [enabled, Bool.and_eq_true, List.all_eq_true, decide_eq_true_eq, bne_iff_ne, ne_eq,
    List.contains_eq_mem, alive_iff] at hen
  obtain ⟨⟨⟨hma, hall⟩, _⟩, hreq⟩ := hen
  refine ⟨hinv.wf, List.forall_mem_cons.mpr
    ⟨⟨has_add_of_mem σ _ t σ.m List.mem_cons_self, ?_, fun hd => absurd hd hma⟩, fun t' ht' => (hinv.safe t' ht').add _ _⟩⟩
  -- if a replica is listed, the master waited for at least one acknowledgement, from a listed replica
  rcases S_or_listed_replica σ with hS | ⟨a, hal, ham⟩
  · exact Or.inr (Or.inr hS)
  · have hr := req_pos sh σ.l (List.two_le_length_of_mem_ne hal hinv.wf.ml ham) hinv.wf.w
    cases A with
    | nil => simp at hreq; omega
    | cons a' A' =>
      obtain ⟨⟨hl, hne⟩, _⟩ := hall a' List.mem_cons_self
      exact Or.inl ⟨a', hl, hne, has_add_of_mem σ (σ.m :: a' :: A') t a' (by simp)⟩

theorem inv_publish (sh : SwitchHelper) (σ : St) (l' : List Host) (hinv : Inv sh σ)
    (hen : enabled sh true σ (.publish l') = true) :
    Inv sh { σ with l := l' } := by
  obtain ⟨wf, safe⟩ := hinv
  simp only [enabled, Bool.and_eq_true, Bool.or_eq_true, List.all_eq_true, List.contains_eq_mem,
    decide_eq_true_eq, alive_iff, not_alive_iff, Bool.not_true, Bool.false_or] at hen
  obtain ⟨⟨⟨⟨⟨hma, hml'⟩, hsub⟩, hdup⟩, hdrop⟩, hjoin⟩ := hen
  refine ⟨⟨wf.hnd, wf.two, nodup_of_nodupB l' hdup, hml', hsub, wf.w⟩,
    fun t ht => ⟨(safe t ht).1, ?_, fun hd => absurd hd hma⟩⟩
  -- a holder that is not the master counts as listed or as evicted, according to the new list
  have sort : ∀ a ∈ σ.hosts, a ≠ σ.m → has σ a t = true →
      K { σ with l := l' } t ∨ U { σ with l := l' } t ∨ S { σ with l := l' } := by
    intro a hah ham hat
    by_cases h : a ∈ l'
    · exact Or.inl ⟨a, h, ham, hat⟩
    · exact Or.inr (Or.inl ⟨a, hah, h, ham, hat⟩)
  rcases (safe t ht).2.1 with ⟨a, hal, ham, hat⟩ | ⟨d, hdh, _, hdm, hdt⟩ | hS
  · exact sort a (wf.sub a hal) ham hat
  · exact sort d hdh hdm hdt
  · -- the master was alone: whoever joins has every acknowledged transaction (the join guard)
    rcases S_or_listed_replica { σ with l := l' } with hS' | ⟨a, hal', ham⟩
    · exact Or.inr (Or.inr hS')
    · rcases hjoin a hal' with h | ⟨_, h⟩
      · exact absurd (hS a h) ham
      · exact Or.inl ⟨a, hal', ham, h t ht⟩

theorem inv_failover (sh : SwitchHelper) (jg : Bool) (σ : St) (n : Host) (F : List Host) (hinv : Inv sh σ)
    (hen : enabled sh jg σ (.failover n F) = true) :
    Inv sh { σ with m := n } := by
  obtain ⟨wf, safe⟩ := hinv
  simp only [enabled, Bool.and_eq_true, Bool.or_eq_true, List.all_eq_true, List.contains_eq_mem,
    decide_eq_true_eq, alive_iff, not_alive_iff] at hen
  obtain ⟨⟨⟨⟨⟨hF, _⟩, hn⟩, hall⟩, _⟩, hcatch⟩ := hen
  have hcu : ∀ f ∈ F, ∀ t, has σ f t = true → has σ n t = true :=
    fun f hf t hft => hcatch f hf t (List.contains_iff_mem.mp hft)
  refine ⟨⟨wf.hnd, wf.two, wf.lnd, (hF n hn).1, wf.sub, wf.w⟩,
    fun t ht => ⟨?_, ?_, fun hd => absurd hd (hF n hn).2⟩⟩
  · -- a holder of `t` is frozen: the old master, or, when it is the faulty host, a listed replica
    show has σ n t = true
    by_cases hd : σ.dead = some σ.m
    · obtain ⟨a, hal, ham, hat⟩ := (safe t ht).2.2 hd
      rcases hall a hal with h | h
      · exact hcu a h t hat
      · rw [hd] at h
        exact absurd (Option.some.inj h).symm ham
    · rcases hall σ.m wf.ml with h | h
      · exact hcu σ.m h t ((safe t ht).1)
      · exact absurd h hd
  · by_cases hnm : n = σ.m
    · subst hnm
      exact (safe t ht).2.1
    · exact Or.inl ⟨σ.m, wf.ml, fun h => hnm h.symm, (safe t ht).1⟩

theorem inv_die (sh : SwitchHelper) (jg : Bool) (σ : St) (h : Host) (hinv : Inv sh σ)
    (hen : enabled sh jg σ (.die h) = true) :
    Inv sh { σ with dead := some h } := by
  simp only [enabled, Bool.and_eq_true, Bool.or_eq_true, List.all_eq_true, List.contains_eq_mem,
    decide_eq_true_eq, bne_iff_ne, ne_eq] at hen
  refine ⟨hinv.wf, fun t ht => ⟨(hinv.safe t ht).1, (hinv.safe t ht).2.1, fun hd => ?_⟩⟩
  -- the master may fail only in a converged cluster
  exact K_of_converged hinv.wf (hen.2.resolve_left (fun hne => hne (Option.some.inj hd))) (hinv.safe t ht).2.1

theorem inv_step (sh : SwitchHelper) (σ : St) (s : Step) (hinv : Inv sh σ) : Inv sh (step sh true σ s) := by
  unfold step
  split
  · exact hinv
  next hen =>
    rw [Bool.not_eq_true, Bool.not_eq_false'] at hen
    cases s with
    | commit t A => exact inv_commit sh true σ t A hinv hen
    | replicate h T => exact ⟨hinv.wf, fun t ht => (hinv.safe t ht).add _ _⟩
    | publish l' => exact inv_publish sh σ l' hinv hen
    | failover n F => exact inv_failover sh true σ n F hinv hen
    | die h => exact inv_die sh true σ h hinv hen
    | heal => exact ⟨hinv.wf, fun t ht => ⟨(hinv.safe t ht).1, (hinv.safe t ht).2.1, nofun⟩⟩

theorem inv_run (sh : SwitchHelper) (steps : List Step) (σ : St) (h : Inv sh σ) : Inv sh (run sh true σ steps) :=
  List.foldlRecOn steps _ h fun σ hσ s _ => inv_step sh σ s hσ

theorem step_hosts (sh : SwitchHelper) (jg : Bool) (σ : St) (s : Step) : (step sh jg σ s).hosts = σ.hosts := by
  unfold step
  split
  · rfl
  · cases s <;> rfl

theorem run_hosts (sh : SwitchHelper) (jg : Bool) (steps : List Step) (σ : St) : (run sh jg σ steps).hosts = σ.hosts :=
  List.foldlRecOn (motive := fun τ => τ.hosts = σ.hosts) steps _ rfl fun τ hτ s _ => (step_hosts sh jg τ s).trans hτ

end SafetyFaultLemmas
