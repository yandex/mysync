/-
Lemmas for C08: the arithmetic of `Lost.replicasRunning`, `stateLost` as a flat decision list (`stateLost_eq`), the
fencing sequence `fence` row by row, and the postponement decision.
-/
import MysyncModel.App.Lost
import MysyncProofs.Lemmas.Guard

namespace LostLemmas
open Lost

theorem running_snd (cfg : Cfg) (i : In) :
    (replicasRunning cfg i).2 = decide (unreachable i.probes > 0) := by
  unfold replicasRunning
  split
  · split <;> rfl
  · rfl

theorem running_fst_iff (cfg : Cfg) (i : In) :
    (replicasRunning cfg i).1 = true ↔
      ((cfg.semiSync = true ∧ ∃ w, i.localWaitCount = some w ∧ available i.probes ≥ w) ∨
       (cfg.semiSync = false ∧ available i.probes ≥ (i.haCount : Int) - 1)) := by
  unfold replicasRunning
  cases hs : cfg.semiSync
  · simp
  · cases hw : i.localWaitCount <;> simp

/-- the value of `ZKHALost[local]` after the iteration, when the node is not exempt -/
def timer' (i : In) : Option Int :=
  if unreachable i.probes > 0 then (match i.timer with | some t => some t | none => some i.now)
  else i.timer

def postpone (cfg : Cfg) (i : In) : Bool :=
  decide (unreachable i.probes > 0) &&
    (match timer' i with | some t => decide (i.now - t ≤ cfg.inactivationDelay) | none => false)

/-- the fencing sequence -/
def fence (i : In) (tm : Option Int) : Out :=
  if i.localIsMaster then
    match i.firstRo with
    | .ok | .other => { acts := [.setReadOnlyForce], next := .lost, timer := tm }
    | .deadline | .lockWait1205 =>
      match i.ack with
      | .err => { acts := [.setReadOnlyForce, .checkWaitingAck], next := .lost, timer := tm }
      | .notWaiting => { acts := [.setReadOnlyForce, .checkWaitingAck, .readGtid], next := .lost, timer := tm }
      | .waiting =>
        if !i.stopReplOfflineOk then { acts := [.setReadOnlyForce, .checkWaitingAck, .setOffline], next := .lost, timer := tm }
        else if !i.stopReplDisableOk then { acts := [.setReadOnlyForce, .checkWaitingAck, .setOffline, .semiSyncDisable], next := .lost, timer := tm }
        else if !i.secondRoOk then { acts := [.setReadOnlyForce, .checkWaitingAck, .setOffline, .semiSyncDisable, .setReadOnlyForce], next := .lost, timer := tm }
        else { acts := [.setReadOnlyForce, .checkWaitingAck, .setOffline, .semiSyncDisable, .setReadOnlyForce, .readGtid], next := .lost, timer := tm }
  else { acts := [.setReadOnly, .readGtid], next := .lost, timer := tm }

theorem stateLost_eq (cfg : Cfg) (i : In) :
    stateLost cfg i =
      if i.connected then { acts := [], next := .candidate, timer := none }
      else if i.haCount == 1 || !i.localIsHA then { acts := [], next := .lost, timer := i.timer }
      else if cfg.disableSetReadonlyOnLost then { acts := [], next := .lost, timer := i.timer }
      else if i.localIsMaster && (replicasRunning cfg i).1 then { acts := [], next := .lost, timer := none }
      else if postpone cfg i then { acts := [], next := .lost, timer := timer' i }
      else fence i (timer' i) := by
  unfold stateLost postpone timer' fence
  -- the second component of `replicasRunning` is the unreachability test that `postpone` and `timer'` spell out
  rw [show replicasRunning cfg i = ((replicasRunning cfg i).1, decide (unreachable i.probes > 0)) from
    Prod.ext rfl (running_snd cfg i)]
  simp only [decide_eq_true_eq]
  rfl

theorem fence_acts_ne_nil (i : In) (tm : Option Int) : (fence i tm).acts ≠ [] := by
  fun_cases fence i tm <;> exact List.cons_ne_nil _ _

theorem fence_timer (i : In) (tm : Option Int) : (fence i tm).timer = tm := by
  fun_cases fence i tm <;> rfl

theorem fence_head (i : In) (tm : Option Int) :
    (i.localIsMaster = true ∧ (fence i tm).acts.head? = some .setReadOnlyForce) ∨
    (i.localIsMaster = false ∧ (fence i tm).acts = [.setReadOnly, .readGtid]) := by
  fun_cases fence i tm
  -- the last row is the replica's; every other row begins with the forced read-only request
  case case15 h => exact Or.inr ⟨Bool.eq_false_iff.mpr h, rfl⟩
  all_goals exact Or.inl ⟨‹i.localIsMaster = true›, rfl⟩

theorem fence_stuck (i : In) (tm : Option Int) (hm : i.localIsMaster = true)
    (hro : i.firstRo = .deadline ∨ i.firstRo = .lockWait1205) (hack : i.ack = .waiting)
    (h1 : i.stopReplOfflineOk = true) (h2 : i.stopReplDisableOk = true) :
    ∃ tail, (fence i tm).acts =
      [.setReadOnlyForce, .checkWaitingAck, .setOffline, .semiSyncDisable, .setReadOnlyForce] ++ tail := by
  unfold fence
  rcases hro with hro | hro <;> cases h3 : i.secondRoOk <;> simp [hm, hro, hack, h1, h2]

theorem fence_off_only_if_stuck (i : In) (tm : Option Int)
    (h : Act.semiSyncDisable ∈ (fence i tm).acts ∨ Act.setOffline ∈ (fence i tm).acts) :
    i.localIsMaster = true ∧ (i.firstRo = .deadline ∨ i.firstRo = .lockWait1205) ∧ i.ack = .waiting := by
  revert h
  fun_cases fence i tm <;> simp [*]

theorem postpone_true (cfg : Cfg) (i : In) (h : postpone cfg i = true) :
    unreachable i.probes > 0 ∧
    ∃ t, timer' i = some t ∧ i.now - t ≤ cfg.inactivationDelay ∧
      (i.timer = some t ∨ (i.timer = none ∧ t = i.now)) := by
  unfold postpone at h
  simp only [Bool.and_eq_true, decide_eq_true_eq] at h
  obtain ⟨hu, h⟩ := h
  refine ⟨hu, ?_⟩
  unfold timer' at h ⊢
  simp only [hu, if_true] at h ⊢
  cases ht : i.timer with
  | none => simp [ht] at h ⊢; exact h
  | some t => simp [ht] at h ⊢; exact h

theorem postpone_false_of_no_unreachable (cfg : Cfg) (i : In) (hu : unreachable i.probes = 0) :
    postpone cfg i = false := by
  unfold postpone
  simp [hu]

theorem postpone_false_of_expired (cfg : Cfg) (i : In) (t : Int) (ht : i.timer = some t)
    (hd : i.now - t > cfg.inactivationDelay) : postpone cfg i = false := by
  unfold postpone timer'
  by_cases hu : unreachable i.probes > 0
  · simp [hu, ht]; omega
  · simp [hu]

theorem fence_of_acts (cfg : Cfg) (i : In) (hne : (stateLost cfg i).acts ≠ []) :
    ∃ tm, stateLost cfg i = fence i tm := by
  generalize ho : stateLost cfg i = o at hne
  rw [stateLost_eq] at ho
  -- each of the five guards before the fencing sequence returns without an action
  iterate 5
    rcases Guard.cases ho with ⟨_, rfl⟩ | ⟨_, ho⟩
    · exact absurd rfl hne
  exact ⟨_, ho.symm⟩

end LostLemmas
