/- Lemmas for C19 about traces.  `sync`'s trace is the run of a static list of calls (`plan`, `sync_evs`) against the
failure oracle, so what holds of every `runCalls` (a crash is a prefix: `runCalls_before`) holds of `sync`.  What a trace
does to the registry+settings world is in OptimizationWorld.lean. -/
import MysyncModel.App.Optimization
import MysyncProofs.Lemmas.ReplSettingsSpec

namespace OptimizationLemmas
open NS Optimization

def okEvs (cs : List Call) : List Ev := cs.map fun c => ⟨c, true⟩

theorem mem_okEvs (cs : List Call) (e : Ev) : e ∈ okEvs cs ↔ e.ok = true ∧ e.call ∈ cs := by
  obtain ⟨c, ok⟩ := e
  simp only [okEvs, List.mem_map, Ev.mk.injEq]
  constructor
  · rintro ⟨_, hc, rfl, rfl⟩; exact ⟨rfl, hc⟩
  · rintro ⟨rfl, hc⟩; exact ⟨c, hc, rfl, rfl⟩

theorem runCalls_cons (fails : Call → Bool) (c : Call) (r : List Call) :
    runCalls fails (c :: r) = if fails c then ([⟨c, false⟩], false)
      else (⟨c, true⟩ :: (runCalls fails r).1, (runCalls fails r).2) := rfl

theorem runCalls_nil (fails : Call → Bool) : runCalls fails [] = ([], true) := rfl

theorem runCalls_append (fails : Call → Bool) (a b : List Call) :
    runCalls fails (a ++ b) =
      if (runCalls fails a).2 then ((runCalls fails a).1 ++ (runCalls fails b).1, (runCalls fails b).2)
      else runCalls fails a := by
  induction a with
  | nil => simp [runCalls_nil]
  | cons c r ih =>
    rw [List.cons_append, runCalls_cons, runCalls_cons, ih]
    cases fails c <;> cases h2 : (runCalls fails r).2 <;> simp [h2]

theorem runCalls_append_fst (fails : Call → Bool) (a b : List Call) :
    (runCalls fails (a ++ b)).1 = (runCalls fails a).1 ++ if (runCalls fails a).2 then (runCalls fails b).1 else [] := by
  rw [runCalls_append]
  cases (runCalls fails a).2 <;> simp

theorem runCalls_singleton (fails : Call → Bool) (c : Call) : runCalls fails [c] = ([⟨c, !fails c⟩], !fails c) := by
  rw [runCalls_cons, runCalls_nil]
  cases fails c <;> rfl

theorem runCalls_nofail (fails : Call → Bool) (hok : ∀ c, fails c = false) (cs : List Call) :
    runCalls fails cs = (okEvs cs, true) := by
  induction cs with
  | nil => rfl
  | cons c r ih => simp [runCalls_cons, hok, ih, okEvs]

theorem runCalls_calls_prefix (fails : Call → Bool) (cs : List Call) : (runCalls fails cs).1.map (·.call) <+: cs := by
  induction cs with
  | nil => exact List.prefix_refl _
  | cons c r ih =>
    rw [runCalls_cons]
    split
    · exact ⟨r, rfl⟩
    · exact (List.prefix_cons_inj c).2 ih

theorem runCalls_mem (fails : Call → Bool) (cs : List Call) (e : Ev) (h : e ∈ (runCalls fails cs).1) :
    e.call ∈ cs :=
  (runCalls_calls_prefix fails cs).subset (List.mem_map_of_mem h)

/-- a crash is a prefix: whatever precedes an event of the trace is the fault-free run of the calls before it -/
theorem runCalls_before (fails : Call → Bool) : ∀ (cs : List Call) (pre post : List Ev) (e : Ev),
    (runCalls fails cs).1 = pre ++ e :: post → ∃ a rest, cs = a ++ e.call :: rest ∧ pre = okEvs a := by
  intro cs
  induction cs with
  | nil => intro pre post e h; simp [runCalls_nil] at h
  | cons c r ih =>
    intro pre post e h
    rw [runCalls_cons] at h
    rcases pre with _ | ⟨x, pre⟩
    · -- the first event is the first call, failed or not
      have he : e.call = c := by
        split at h <;> simp only [List.nil_append, List.cons.injEq] at h <;> rw [← h.1]
      exact ⟨[], r, by rw [he]; rfl, rfl⟩
    · split at h
      · simp at h
      · simp only [List.cons_append, List.cons.injEq] at h
        obtain ⟨a, rest, rfl, rfl⟩ := ih pre post e h.2
        exact ⟨c :: a, rest, rfl, by rw [← h.1]; rfl⟩

theorem runCalls_failed (fails : Call → Bool) (cs : List Call) (c : Call)
    (h : (⟨c, false⟩ : Ev) ∈ (runCalls fails cs).1) : (runCalls fails cs).1.getLast? = some ⟨c, false⟩ := by
  obtain ⟨pre, post, hs⟩ := List.append_of_mem h
  rcases post with _ | ⟨e, post⟩
  · rw [hs, List.getLast?_concat]
  · -- an event after it would make it part of a fault-free run
    obtain ⟨a, _, _, ha⟩ := runCalls_before fails cs (pre ++ [⟨c, false⟩]) post e (by rw [hs, List.append_assoc]; rfl)
    cases ((mem_okEvs a ⟨c, false⟩).1 (ha ▸ List.mem_append_right _ List.mem_cons_self)).1

def restoreCalls (l : List RegHost) : List Call := (l.filter (·.hasNode)).map fun h => Call.restore h.name
def deregCalls (l : List RegHost) : List Call := l.map fun h => Call.deregister h.name

/-- the hosts `disableNodes` is called with -/
def toDisable (cfg : Cfg) (i : SyncIn) : List RegHost := ofClass cfg i .optimized ++ ofClass cfg i .malfunctioning

/-- the calls of `syncNodeOptions` -/
def nodeCalls (i : SyncIn) (h : RegHost) : List Call :=
  .readSettings h.name :: if Gen.ReplSettings.CanBeOptimized (i.current h.name) then [.relax h.name] else []

/-- the last calls of `sync`; a host without a node handle ends the plan (in the Go code: a nil dereference) -/
def lastCalls (cfg : Cfg) (i : SyncIn) : List Call :=
  match ofClass cfg i .optimizing with
  | f :: _ => if f.hasNode then nodeCalls i f else []
  | [] =>
    match ofClass cfg i .disabled with
    | d :: _ => if d.hasNode then [.relax d.name] else []
    | [] => []

/-- the four groups of calls of a `sync` that classified every host; the first two are `disableNodes` -/
def groups (cfg : Cfg) (i : SyncIn) : List Call :=
  restoreCalls (toDisable cfg i) ++ (deregCalls (toDisable cfg i) ++
    (restoreCalls (ofClass cfg i .optimizing).tail ++ lastCalls cfg i))

/-- the calls `sync` is going to make, in order, if none fails -/
def plan (cfg : Cfg) (i : SyncIn) : List Call :=
  if i.hosts.any (fun h => classify cfg i.masterRs h == .panic) then [] else groups cfg i

def _root_.Optimization.SyncOut.evs : SyncOut → List Ev
  | .trace t => t
  | .panic t => t

theorem syncNodeOptions_eq (i : SyncIn) (h : RegHost) : syncNodeOptions i h = (runCalls i.fails (nodeCalls i h)).1 := by
  unfold syncNodeOptions nodeCalls
  rw [runCalls_cons]
  cases i.fails (.readSettings h.name)
  · cases Gen.ReplSettings.CanBeOptimized (i.current h.name) <;> simp [runCalls_singleton, runCalls_nil]
  · rfl

theorem sync_evs (cfg : Cfg) (i : SyncIn) : (sync cfg i).evs = (runCalls i.fails (plan cfg i)).1 := by
  unfold sync plan groups lastCalls restoreCalls deregCalls toDisable
  by_cases hp : (i.hosts.any fun h => classify cfg i.masterRs h == .panic) = true
  · rw [if_pos hp, if_pos hp]; rfl
  -- both sides run the groups of calls one after the other and stop after a group that failed
  rw [if_neg hp, if_neg hp, runCalls_append_fst, runCalls_append_fst, runCalls_append_fst]
  dsimp only
  generalize runCalls i.fails (List.map (fun h => Call.restore h.name) (List.filter (·.hasNode)
    (ofClass cfg i .optimized ++ ofClass cfg i .malfunctioning))) = r1
  generalize runCalls i.fails (List.map (fun h => Call.deregister h.name)
    (ofClass cfg i .optimized ++ ofClass cfg i .malfunctioning)) = r2
  rcases r1 with ⟨t1, _ | _⟩
  · simp [SyncOut.evs]
  rcases r2 with ⟨t2, _ | _⟩
  · simp [SyncOut.evs]
  generalize ofClass cfg i .optimizing = o
  generalize ofClass cfg i .disabled = d
  rcases o with _ | ⟨f, _ | ⟨s, r⟩⟩
  · rcases d with _ | ⟨d, _⟩
    · simp [SyncOut.evs, runCalls_nil]
    · cases hn : d.hasNode <;> simp [SyncOut.evs, runCalls_nil, runCalls_singleton, hn]
  · cases hn : f.hasNode <;> simp [SyncOut.evs, runCalls_nil, syncNodeOptions_eq, hn]
  · rcases h3 : runCalls i.fails (List.map (fun h => Call.restore h.name) (List.filter (·.hasNode) (s :: r)))
      with ⟨t3, _ | _⟩
    · simp [SyncOut.evs, h3]
    · cases hn : f.hasNode <;> simp [SyncOut.evs, runCalls_nil, syncNodeOptions_eq, h3, hn]

theorem trace_eq_run (cfg : Cfg) (i : SyncIn) (t : List Ev) (hs : sync cfg i = .trace t ∨ sync cfg i = .panic t) :
    t = (runCalls i.fails (plan cfg i)).1 := by
  rw [← sync_evs]
  rcases hs with hs | hs <;> rw [hs] <;> rfl

theorem mem_restoreCalls (l : List RegHost) (c : Call) :
    c ∈ restoreCalls l ↔ ∃ r ∈ l, r.hasNode = true ∧ c = .restore r.name := by
  simp only [restoreCalls, List.mem_map, List.mem_filter]
  constructor
  · rintro ⟨r, ⟨h1, h2⟩, h3⟩; exact ⟨r, h1, h2, h3.symm⟩
  · rintro ⟨r, h1, h2, h3⟩; exact ⟨r, ⟨h1, h2⟩, h3.symm⟩

theorem mem_deregCalls (l : List RegHost) (c : Call) :
    c ∈ deregCalls l ↔ ∃ r ∈ l, c = .deregister r.name := by
  simp only [deregCalls, List.mem_map]
  constructor
  · rintro ⟨r, h1, h3⟩; exact ⟨r, h1, h3.symm⟩
  · rintro ⟨r, h1, h3⟩; exact ⟨r, h1, h3.symm⟩

theorem classify_cls (cfg : Cfg) (m : RS) (r : RegHost) (he : r.enabled.isSome = true) (hs : r.settings.isSome = true) :
    ∃ c, classify cfg m r = .cls c := by
  fun_cases classify cfg m r
  -- of the seven rows only "no record" and "no settings" give no class
  case case1 h => rw [h] at he; cases he
  case case5 h => rw [h] at hs; cases hs
  all_goals exact ⟨_, rfl⟩

theorem classify_disabled (cfg : Cfg) (m : RS) (r : RegHost) (h : classify cfg m r = .cls .disabled) :
    r.settings = some m := by
  revert h
  fun_cases classify cfg m r
  case case7 s hs heq => exact fun _ => hs.trans (congrArg some ((ReplSettingsSpec.equal_iff_eq _ _).1 (by simpa using heq)))
  all_goals exact nofun

theorem mem_ofClass (cfg : Cfg) (i : SyncIn) (c : Class) (r : RegHost) :
    r ∈ ofClass cfg i c ↔ r ∈ i.hosts ∧ classify cfg i.masterRs r = .cls c := by
  simp [ofClass]

theorem mem_toDisable (cfg : Cfg) (i : SyncIn) (r : RegHost) :
    r ∈ toDisable cfg i ↔ r ∈ i.hosts ∧
      (classify cfg i.masterRs r = .cls .optimized ∨ classify cfg i.masterRs r = .cls .malfunctioning) := by
  simp only [toDisable, List.mem_append, mem_ofClass, and_or_left]

/-- the host `sync` may relax -/
def special (cfg : Cfg) (i : SyncIn) : String :=
  match ofClass cfg i .optimizing with
  | f :: _ => f.name
  | [] =>
    match ofClass cfg i .disabled with
    | d :: _ => d.name
    | [] => ""

theorem special_or_tail (cfg : Cfg) (i : SyncIn) (r : RegHost) (h : r ∈ ofClass cfg i .optimizing) :
    r.name = special cfg i ∨ r ∈ (ofClass cfg i .optimizing).tail := by
  unfold special
  generalize ofClass cfg i .optimizing = o at h ⊢
  rcases o with _ | ⟨f, rest⟩
  · cases h
  · exact (List.mem_cons.1 h).imp (congrArg RegHost.name) id

theorem lastCalls_sublist (cfg : Cfg) (i : SyncIn) :
    (lastCalls cfg i).Sublist [.readSettings (special cfg i), .relax (special cfg i)] := by
  unfold lastCalls special nodeCalls
  rcases ofClass cfg i .optimizing with _ | ⟨f, _⟩
  · rcases ofClass cfg i .disabled with _ | ⟨d, _⟩
    · exact List.nil_sublist _
    · dsimp only
      split
      · exact .cons _ (.refl _)
      · exact List.nil_sublist _
  · dsimp only
    split
    · split
      · exact .refl _
      · exact .cons_cons _ (List.nil_sublist _)
    · exact List.nil_sublist _

theorem plan_eq (cfg : Cfg) (i : SyncIn) :
    (sync cfg i = .panic [] ∧ plan cfg i = []) ∨ plan cfg i = groups cfg i := by
  unfold plan
  by_cases hp : (i.hosts.any fun h => classify cfg i.masterRs h == .panic) = true
  · exact Or.inl ⟨by unfold sync; rw [if_pos hp], if_pos hp⟩
  · exact Or.inr (if_neg hp)

theorem mem_trace_nofail (cfg : Cfg) (i : SyncIn) (t : List Ev) (hok : ∀ c, i.fails c = false) (hs : sync cfg i = .trace t)
    (e : Ev) : e ∈ t ↔ e.ok = true ∧
      (e.call ∈ restoreCalls (toDisable cfg i) ∨ e.call ∈ deregCalls (toDisable cfg i) ∨
        e.call ∈ restoreCalls (ofClass cfg i .optimizing).tail ∨ e.call ∈ lastCalls cfg i) := by
  rw [trace_eq_run cfg i t (Or.inl hs), runCalls_nofail _ hok, mem_okEvs]
  rcases plan_eq cfg i with ⟨hp, _⟩ | h
  · rw [hp] at hs; cases hs
  · rw [h, groups]; simp only [List.mem_append]

theorem plan_calls (cfg : Cfg) (i : SyncIn) (c : Call) (hc : c ∈ plan cfg i) :
    (∃ x, c = .restore x) ∨ (∃ x, c = .deregister x) ∨ c = .readSettings (special cfg i) ∨ c = .relax (special cfg i) := by
  rcases plan_eq cfg i with ⟨_, h⟩ | h <;> rw [h] at hc
  · cases hc
  simp only [groups, List.mem_append, mem_restoreCalls, mem_deregCalls] at hc
  rcases hc with ⟨_, _, _, e⟩ | ⟨_, _, e⟩ | ⟨_, _, _, e⟩ | h
  · exact Or.inl ⟨_, e⟩
  · exact Or.inr (Or.inl ⟨_, e⟩)
  · exact Or.inl ⟨_, e⟩
  · exact Or.inr (Or.inr (by simpa using (lastCalls_sublist cfg i).subset h))

def _root_.Optimization.Call.isRelax : Call → Bool
  | .relax _ => true
  | _ => false

theorem filter_relax_restoreCalls (l : List RegHost) : (restoreCalls l).filter Call.isRelax = [] := by
  simp [restoreCalls, List.filter_map, Function.comp_def, Call.isRelax]

theorem filter_relax_deregCalls (l : List RegHost) : (deregCalls l).filter Call.isRelax = [] := by
  simp [deregCalls, List.filter_map, Function.comp_def, Call.isRelax]

theorem plan_relax_le (cfg : Cfg) (i : SyncIn) : ((plan cfg i).filter Call.isRelax).length ≤ 1 := by
  rcases plan_eq cfg i with ⟨_, h⟩ | h <;> rw [h]
  · exact Nat.zero_le _
  · simp only [groups, List.filter_append, filter_relax_restoreCalls, filter_relax_deregCalls, List.nil_append]
    exact ((lastCalls_sublist cfg i).filter _).length_le

theorem mem_disableAll (registry given : List String) (fails : Call → Bool) (e : Ev) :
    e ∈ disableAll registry given fails ↔ ∃ h ∈ registry, h ∈ given ∧
      (e = ⟨.restore h, !fails (.restore h)⟩ ∨
        (fails (.restore h) = false ∧ e = ⟨.deregister h, !fails (.deregister h)⟩)) := by
  simp only [disableAll, List.mem_flatMap]
  refine exists_congr fun h => and_congr_right fun _ => ?_
  by_cases hg : h ∈ given
  · cases fails (.restore h) <;> simp [hg]
  · simp [hg]

end OptimizationLemmas
