/-
Lemmas for C04, part 1: who is a member (`classify`, by its rows), the sorted member list of `calcActiveNodes`,
and `calcActiveNodesChanges` with its download-lag gate (who may enter semi-sync).
-/
import MysyncModel.App.ActiveNodes
import MysyncProofs.Lemmas.ListFacts

namespace ActiveNodesLemmas
open NS Gtid ActiveNodes

theorem mem_filterOut {x : String} {a b : List String} : x ∈ filterOut a b ↔ x ∈ a ∧ x ∉ b := by
  simp [filterOut]

theorem filterOut_nil (l : List String) : filterOut l [] = l := by
  simp [filterOut]

theorem get?_mem (cs : ClusterState) (h : String) (s : NodeState) (hg : cs.get? h = some s) : (h, s) ∈ cs := by
  fun_induction ClusterState.get? cs h with
  | case1 => cases hg
  | case2 r v => cases hg; exact List.mem_cons_self
  | case3 r k v hk ih => exact List.mem_cons_of_mem _ (ih hg)

theorem isMember_ite {c : Prop} [Decidable c] {a b : Membership} (ha : a.isMember = true) (hb : b.isMember = false) :
    (if c then a else b).isMember = true ↔ c := by
  split <;> simp [*]

/-- the hypotheses have the form the rows of `classify` give them -/
theorem rule_down {c p : Bool} {M U D : Prop} (hc : ¬c = true) (hm : M) (hp : (!p) = true) :
    c = false ∧ M ∧ (p = true ∧ U ∨ p = false ∧ D) ↔ D := by
  simp_all

theorem rule_up {c p : Bool} {M U D : Prop} (hc : ¬c = true) (hm : M) (hp : ¬(!p) = true) :
    c = false ∧ M ∧ (p = true ∧ U ∨ p = false ∧ D) ↔ U := by
  simp_all

/-- By the rows of `classify`: the tests a row has made decide the right-hand side. -/
theorem isMember_classify (delay : Int) (i : CalcIn) (host : String) (node : NodeState) (hne : host ≠ i.master) :
    (classify delay i host node).1.isMember = true ↔
      node.isCascade = false ∧
      (∀ l, i.recovery = some l → host ∉ l) ∧
      ((node.pingOk = true ∧ ∃ sl sg mg mu, node.slave = some sl ∧ sl.state = .running ∧ parse sl.executed = some sg ∧
          i.mgtid.bind parse = some mg ∧ i.muuid = some mu ∧ isSplitBrained sg mg mu = false) ∨
       (node.pingOk = false ∧ host ∈ i.oldActive ∧ ∃ d, i.dcs.get? host = some d ∧
          (node.pingDubious = true ∨ d.pingOk = true ∨
            ∃ t, (i.timers.get? host = some t ∨ (i.timers.get? host = none ∧ t = i.now)) ∧ i.now - t < delay))) := by
  -- the third test, and the start of the failure timer, in the words of the statement
  have hrec : (∀ l, i.recovery = some l → host ∉ l) ↔
      ¬(match i.recovery with | some l => l.contains host | none => false) = true := by
    cases i.recovery <;> simp
  have ht : ∀ t, (i.timers.get? host = some t ∨ (i.timers.get? host = none ∧ t = i.now)) ↔
      t = match i.timers.get? host with | some x => x | none => i.now := by
    cases i.timers.get? host <;> simp [eq_comm]
  fun_cases classify delay i host node
  case case1 h => exact absurd (beq_iff_eq.mp h) hne
  case case2 hc => exact iff_of_false nofun fun h => Bool.false_ne_true (h.1.symm.trans hc)
  case case3 hm => exact iff_of_false nofun fun h => hrec.mp h.2.1 hm
  -- unreachable: not in the coordination view; dubious or holding its health record; failing; down
  case case4 hc hm hp hd =>
    rw [rule_down hc (hrec.mpr hm) hp]
    exact iff_of_false nofun fun ⟨_, d, hd', _⟩ => nomatch hd.symm.trans hd'
  case case5 hc hm hp d hd hdub =>
    rw [rule_down hc (hrec.mpr hm) hp]
    exact (isMember_ite rfl rfl).trans <| List.contains_iff_mem.trans
      (and_iff_left ⟨d, hd, (Bool.or_eq_true _ _ |>.mp hdub).imp_right .inl⟩).symm
  case case6 hc hm hp d hd _ _ hlt =>
    rw [rule_down hc (hrec.mpr hm) hp]
    exact (isMember_ite rfl rfl).trans <| List.contains_iff_mem.trans
      (and_iff_left ⟨d, hd, .inr (.inr ⟨_, (ht _).mpr rfl, hlt⟩)⟩).symm
  case case7 hc hm hp d hd hnd _ hlt =>
    rw [rule_down hc (hrec.mpr hm) hp]
    refine iff_of_false nofun fun ⟨_, d', hd', h⟩ => ?_
    cases hd.symm.trans hd'
    rcases h with h | h | ⟨t, h, hlt'⟩
    · simp [h] at hnd
    · simp [h] at hnd
    · cases (ht t).mp h
      exact hlt hlt'
  -- reachable: no replica status; stopped or split-brained; replicating; its executed set does not parse; the master's
  -- set or uuid is missing
  case case8 hc hm hp hsl =>
    rw [rule_up hc (hrec.mpr hm) hp]
    exact iff_of_false nofun fun ⟨sl, _, _, _, hsl', _⟩ => nomatch hsl.symm.trans hsl'
  case case9 hc hm hp sl hsl sg mg mu hmu hmg hsg h =>
    rw [rule_up hc (hrec.mpr hm) hp]
    refine iff_of_false nofun fun ⟨sl', sg', mg', mu', hsl', hrun, hsg', hmg', hmu', hsb⟩ => ?_
    cases hsl.symm.trans hsl'; cases hsg.symm.trans hsg'; cases hmg.symm.trans hmg'; cases hmu.symm.trans hmu'
    simp [hrun, hsb] at h
  case case10 hc hm hp sl hsl sg mg mu hmu hmg hsg h =>
    rw [rule_up hc (hrec.mpr hm) hp]
    have h' : sl.state = .running ∧ isSplitBrained sg mg mu = false := by simpa using h
    exact iff_of_true rfl ⟨sl, sg, mg, mu, hsl, h'.1, hsg, hmg, hmu, h'.2⟩
  case case11 hc hm hp sl hsl hn =>
    rw [rule_up hc (hrec.mpr hm) hp]
    refine iff_of_false nofun fun ⟨sl', sg', _, _, hsl', _, hsg', _⟩ => ?_
    cases hsl.symm.trans hsl'
    exact nomatch hn.symm.trans hsg'
  case case12 hc hm hp sl hsl _ hno =>
    rw [rule_up hc (hrec.mpr hm) hp]
    refine iff_of_false nofun fun ⟨sl', sg, mg, mu, hsl', _, hsg, hmg, hmu, _⟩ => ?_
    cases hsl.symm.trans hsl'
    exact hno sg mg mu hsg hmg hmu

theorem mem_insertSortedStr (x y : String) (l : List String) :
    y ∈ insertSortedStr x l ↔ y = x ∨ y ∈ l := by
  induction l with
  | nil => simp [insertSortedStr]
  | cons a r ih =>
    unfold insertSortedStr
    split
    · simp
    · simp only [List.mem_cons, ih]; exact or_left_comm

theorem mem_sortStr (y : String) (l : List String) : y ∈ sortStr l ↔ y ∈ l := by
  induction l with
  | nil => simp [sortStr]
  | cons a r ih =>
    have : sortStr (a :: r) = insertSortedStr a (sortStr r) := rfl
    rw [this, mem_insertSortedStr, ih]; simp

/-- what the download-lag gate says of one candidate: `none` = it passes; otherwise it is more than
`semi_sync_enable_lag` bytes behind and its IO position has stopped (`some true`) or still moves (`some false`) -/
def gate (cfg : Cfg) (cs : ClusterState) (bl : List (String × Int)) (rp : List (String × String)) (h : String) :
    Option Bool :=
  match (cs.get? h).bind (·.slave) with
  | none => none
  | some sl =>
    if calcLagBytes bl sl.logFile sl.logPos > cfg.semiSyncEnableLag
    then some (decide (posKey sl.logFile sl.logPos ≤ (rp.lookup h).getD "")) else none

theorem gate_eq_none {cfg : Cfg} {cs : ClusterState} {bl : List (String × Int)} {rp : List (String × String)} {h : String} :
    gate cfg cs bl rp h = none ↔
      ∀ sl, (cs.get? h).bind (·.slave) = some sl → calcLagBytes bl sl.logFile sl.logPos ≤ cfg.semiSyncEnableLag := by
  unfold gate
  cases (cs.get? h).bind (·.slave) with
  | none => exact iff_of_true rfl nofun
  | some sl =>
    dsimp only
    constructor
    · rintro hg _ ⟨rfl⟩
      exact Int.not_lt.mp fun hlag => by rw [if_pos hlag] at hg; cases hg
    · exact fun hle => if_neg (Int.not_lt.mpr (hle sl rfl))

theorem mem_becomeActive {cfg : Cfg} {cs : ClusterState} {active old : List String} {master : String}
    {binlogs : Option (List (String × Int))} {rp : List (String × String)} {ch : Changes} {h : String}
    (hc : calcChanges cfg cs active old master binlogs rp = some ch) (hm : h ∈ ch.becomeActive) :
    h ∉ ch.dataLag ∧ h ∉ ch.becomeInactive ∧ ∀ bl, binlogs = some bl → gate cfg cs bl rp h = none := by
  revert hc
  fun_cases calcChanges cfg cs active old master binlogs rp
  case case1 he =>
    rintro ⟨rfl⟩
    rw [List.isEmpty_iff.mp he] at hm
    cases hm
  case case2 => nofun
  case case3 bl step inact lagging hx =>
    rintro ⟨rfl⟩
    -- the gate's loop files the stopped under `inact` and the moving under `lagging`
    have hstep : ∀ acc a, step acc a =
        match gate cfg cs bl rp a with
        | some true => (acc.1 ++ [a], acc.2)
        | some false => (acc.1, acc.2 ++ [a])
        | none => acc := by
      intro acc a
      simp only [step, gate]
      cases (cs.get? a).bind (·.slave) with
      | none => rfl
      | some sl =>
        dsimp only
        split
        · split <;> simp [*]
        · rfl
    rw [List.foldl_filters _ _ hstep] at hx
    cases hx
    -- `h` is a candidate that is in neither list
    simp only [List.nil_append, mem_filterOut, List.mem_append, List.mem_filter, not_or, not_and] at hm ⊢
    obtain ⟨⟨h1, h2⟩, h3, h4⟩ := hm
    refine ⟨h2, ⟨h3, h4⟩, ?_⟩
    rintro _ ⟨rfl⟩
    rcases hg : gate cfg cs bl rp h with _ | _ | _
    · rfl
    · exact absurd (by simp [hg]) (h2 h1)
    · exact absurd (by simp [hg]) (h4 h1)

end ActiveNodesLemmas
