/-
Lemmas for C06 / C07: the effect of one manager iteration on the three coordination keys (`SwitchLifecycle.tick`):
what any iteration can do to a pending request (`tick_pending`), what an active manager does (`tick_active`), and
the bound on the attempts of a planned switchover.
-/
import MysyncModel.App.SwitchLifecycle
import MysyncProofs.Lemmas.ManagerCore

namespace ManagerLemmas
open NS Manager SwitchLifecycle

def inert : Step → Bool
  | .switchTimedOut | .switchRejected | .switchFailed | .switchFinished | .switchPerformed _
  | .issueFailover => false
  | _ => true

theorem applyStep_inert {s : Step} (h : inert s = true) (m : String) (now : Int) (k : Keys) :
    applyStep m now k s = k := by
  cases s <;> simp [inert] at h <;> simp [applyStep]

theorem foldl_inert {l : List Step} (h : ∀ s ∈ l, inert s = true) (m : String) (now : Int) (k : Keys) :
    l.foldl (applyStep m now) k = k :=
  List.foldlRecOn l _ (motive := (· = k)) rfl fun _ hk s hs => by rw [hk, applyStep_inert (h s hs)]

theorem inert_of_quiet {s : Step} (h : quiet s = true) : inert s = true := by
  cases s <;> simp [quiet] at h <;> rfl

theorem inert_of_early {s : Step} (h : early s = true) : inert s = true := by
  cases s <;> simp [early] at h <;> rfl

theorem Enters.pre_inert {i : In} {master : String} {light : Bool} {pre : List Step}
    (h : Enters i master light pre) : ∀ s ∈ pre, inert s = true := fun s hs =>
  inert_of_early (h.pre_early s hs)

/-- what the handling of the (non-parked) request `sw` does to the keys -/
def outcome (cfg : Cfg) (i : In) (sw : Switch) (k : Keys) : Keys :=
  if timedOut cfg i.now sw then { k with switch := none, lastRejected := some sw }
  else if !approveSwitchover cfg i sw then { k with switch := none, lastRejected := some sw }
  else if !i.startOk then k
  else match i.perform with
    | .ok => { k with switch := none, lastOk := some sw }
    | .failed => { k with switch := some { sw with runCount := sw.runCount + 1 } }
    | .abortedMeanwhile => { k with switch := none }
    | .panicked => k

theorem foldl_hsTail (cfg : Cfg) (i : In) {sw : Switch} {k : Keys} (hs : k.switch = some sw)
    (m : String) (now : Int) :
    (hsTail cfg i sw).foldl (applyStep m now) k = outcome cfg i sw k := by
  fun_cases outcome cfg i sw k <;> simp [hsTail, applyStep, performTail, *]

def tickIn (i : In) (k : Keys) : In :=
  { i with sw := match k.switch with | some sw => .record sw | none => .absent }

theorem tick_eq (cfg : Cfg) (i : In) (k : Keys) :
    tick cfg i k = (stateManager cfg (tickIn i k)).steps.foldl (applyStep (i.master.getD "") i.now) k := rfl

theorem tick_pending (cfg : Cfg) (i : In) {k : Keys} {sw : Switch} (hs : k.switch = some sw) :
    tick cfg i k = k ∨
    tick cfg i k = { k with switch := none, lastRejected := some sw } ∨
    (tick cfg i k = { k with switch := none, lastOk := some sw } ∧ i.perform = .ok) ∨
    (tick cfg i k = { k with switch := some { sw with runCount := sw.runCount + 1 } } ∧ i.perform = .failed) ∨
    (tick cfg i k = { k with switch := none } ∧ i.perform = .abortedMeanwhile) := by
  have hsw : (tickIn i k).sw = .record sw := by simp [tickIn, hs]
  rw [tick_eq]
  rcases stateManager_shape cfg (tickIn i k) with ⟨_, he⟩ | ⟨m, light, pre, hen, e⟩
  · exact Or.inl (foldl_inert (fun s h => inert_of_early (he s h)) _ _ _)
  rw [e, List.foldl_append, foldl_inert hen.pre_inert]
  by_cases hp : light = true ∧ sw.failoverType = true
  · -- parked by light maintenance: the marker and quiet steps
    obtain ⟨rfl, hf⟩ := hp
    rw [hsOut_parked hsw hf, List.foldl_cons, applyStep_inert rfl]
    exact Or.inl (foldl_inert (fun s h => inert_of_quiet (asTail_light_quiet _ _ _ s h)) _ _ _)
  · -- handled: the steps of `hsTail` do to the keys what `outcome` says, row by row
    rw [hsOut_record hsw hp, foldl_hsTail cfg (tickIn i k) hs]
    fun_cases outcome cfg (tickIn i k) sw k
    case case1 | case2 => exact Or.inr (Or.inl rfl)
    case case3 | case7 => exact Or.inl rfl
    case case4 h => exact Or.inr (Or.inr (Or.inl ⟨rfl, h⟩))
    case case5 h => exact Or.inr (Or.inr (Or.inr (Or.inl ⟨rfl, h⟩)))
    case case6 h => exact Or.inr (Or.inr (Or.inr (Or.inr ⟨rfl, h⟩)))

/-- the request filed by `issueFailover` -/
def autoReq (i : In) : Switch :=
  { from_ := i.master.getD "", causeAuto := true, failoverType := true, initiatedAt := some i.now }

theorem tick_none_cases (cfg : Cfg) (i : In) {k : Keys} (hs : k.switch = none) :
    tick cfg i k = k ∨ tick cfg i k = { k with switch := some (autoReq i) } := by
  have hsw : (tickIn i k).sw = .absent := by simp [tickIn, hs]
  rw [tick_eq]
  rcases stateManager_shape cfg (tickIn i k) with ⟨_, he⟩ | ⟨m, light, pre, hen, e⟩
  · exact Or.inl (foldl_inert (fun s h => inert_of_early (he s h)) _ _ _)
  rw [e, List.foldl_append, foldl_inert hen.pre_inert, hsOut_absent hsw]
  rcases asTail_char cfg (tickIn i k) m light with hq | ⟨q, hq, hqq, _, _⟩
  · exact Or.inl (foldl_inert (fun s h => inert_of_quiet (hq s h)) _ _ _)
  · right
    rw [hq, List.foldl_append, foldl_inert (fun s h => inert_of_quiet (hqq s h))]
    simp [applyStep, file, hs, autoReq]

theorem enters_of_active {i : In} (ha : ActiveManager i) :
    ∃ m light, Enters i m light [] ∧ (light = true → i.maint = .record true true false) := by
  obtain ⟨hc, hl, hd, hm, han, hmt, _⟩ := ha
  obtain ⟨m, hm⟩ := Option.isSome_iff_exists.mp hm
  rcases hmt with h | h | h
  · exact ⟨m, false, ⟨hc, hl, hd, hm, han, Or.inl ⟨rfl, rfl, Or.inl h⟩⟩, nofun⟩
  · exact ⟨m, false, ⟨hc, hl, hd, hm, han, Or.inl ⟨rfl, rfl, Or.inr h⟩⟩, nofun⟩
  · exact ⟨m, true, ⟨hc, hl, hd, hm, han, Or.inr (Or.inl ⟨rfl, rfl, h⟩)⟩, fun _ => h⟩

theorem _root_.SwitchLifecycle.ActiveManager.startOk {i : In} (h : ActiveManager i) : i.startOk = true :=
  h.2.2.2.2.2.2

theorem stateManager_active (cfg : Cfg) {i : In} {sw : Switch} (ha : ActiveManager i) (hs : i.sw = .record sw)
    (hlight : ¬ (sw.failoverType = true ∧ i.maint = .record true true false)) :
    stateManager cfg i = ⟨hsTail cfg i sw, .manager, i.failedAt⟩ := by
  obtain ⟨m, light, hen, hl⟩ := enters_of_active ha
  rw [stateManager_of_enters hen, handleSwitch_eq, List.nil_append, hsOut_record hs fun h => hlight ⟨h.2, hl h.1⟩]

theorem tick_active (cfg : Cfg) (i : In) {k : Keys} {sw : Switch} (ha : ActiveManager i)
    (hs : k.switch = some sw) (hlight : ¬ (sw.failoverType = true ∧ i.maint = .record true true false)) :
    tick cfg i k = outcome cfg i sw k := by
  have hsw : (tickIn i k).sw = .record sw := by simp [tickIn, hs]
  rw [tick_eq, stateManager_active cfg (i := tickIn i k) ha hsw hlight]
  exact foldl_hsTail cfg (tickIn i k) hs _ _

theorem approve_of_overLimit {cfg : Cfg} {sw : Switch} (i : In) (h : overLimit cfg sw = true) :
    approveSwitchover cfg i sw = false := by
  unfold overLimit at h
  simp [approveSwitchover, h]

theorem approve_of_retry {cfg : Cfg} {sw : Switch} (i : In) (hr : sw.runCount > 0)
    (ho : overLimit cfg sw = false) : approveSwitchover cfg i sw = true := by
  unfold overLimit at ho
  simp [approveSwitchover, ho, hr]

-- counterexample to C06 `planned_switchover_bounded` as originally stated: `run_count` above the limit, no iteration
private def cfgX : Cfg := ⟨true, 30, 3600, false, true, 1, 1800, 1⟩
private def swX : Switch := { to := "a", runCount := 2 }
example : ¬ (cfgX.switchoverMaxAttempts > 0 → swX.failoverType = false →
    ({ switch := some swX } : Keys).switch = some swX →
    (∀ i ∈ ([] : List In), ActiveManager i ∧ i.perform ≠ .panicked ∧ (∃ m, i.master = some m ∧ (i.dcs.get? m).isSome)) →
    ((([] : List In).length : Int) ≥ cfgX.switchoverMaxAttempts - swX.runCount + 1) →
    (([] : List In).foldl (fun k i => tick cfgX i k) ({ switch := some swX } : Keys)).switch ≠ some swX) := by
  intro h
  exact h (by decide) rfl rfl (by simp) (by decide) rfl

/-- after the planned request has left, `switch` can only hold an automatic failover request -/
def AutoOrFree (k : Keys) : Prop :=
  k.switch = none ∨ ∃ sw', k.switch = some sw' ∧ sw'.causeAuto = true ∧ sw'.failoverType = true

theorem AutoOrFree.not_planned {k : Keys} {sw : Switch} (h : AutoOrFree k) (hp : sw.failoverType = false) :
    k.switch ≠ some sw ∧ ∀ sw', k.switch = some sw' → sw'.causeAuto = true := by
  rcases h with h | ⟨sw', h, hc, hf⟩ <;> rw [h]
  · simp
  · refine ⟨fun e => ?_, fun _ e => ?_⟩ <;> cases e
    · rw [hp] at hf; cases hf
    · exact hc

theorem autoOrFree_tick (cfg : Cfg) (i : In) {k : Keys} (h : AutoOrFree k) : AutoOrFree (tick cfg i k) := by
  rcases h with h | ⟨sw', h, hc, hf⟩
  · rcases tick_none_cases cfg i h with e | e <;> rw [e]
    · exact Or.inl h
    · exact Or.inr ⟨_, rfl, rfl, rfl⟩
  · rcases tick_pending cfg i h with e | e | ⟨e, _⟩ | ⟨e, _⟩ | ⟨e, _⟩ <;> rw [e]
    · exact Or.inr ⟨sw', h, hc, hf⟩
    · exact Or.inl rfl
    · exact Or.inl rfl
    · exact Or.inr ⟨_, rfl, hc, hf⟩
    · exact Or.inl rfl

theorem autoOrFree_foldl (cfg : Cfg) (is : List In) {k : Keys} (h : AutoOrFree k) :
    AutoOrFree (is.foldl (fun k i => tick cfg i k) k) :=
  List.foldlRecOn is _ h fun _ hk i _ => autoOrFree_tick cfg i hk

theorem planned_tick (cfg : Cfg) (i : In) {k : Keys} {sw : Switch}
    (hm : cfg.switchoverMaxAttempts > 0) (hp : sw.failoverType = false) (hs : k.switch = some sw)
    (ha : ActiveManager i) (hpn : i.perform ≠ .panicked) :
    (tick cfg i k).switch = none ∨
    ((tick cfg i k).switch = some { sw with runCount := sw.runCount + 1 } ∧
      sw.runCount < cfg.switchoverMaxAttempts) := by
  rw [tick_active cfg i ha hs (by simp [hp])]
  fun_cases outcome cfg i sw k
  case case1 | case2 | case4 | case6 => exact Or.inl rfl
  case case3 h => rw [ha.startOk] at h; cases h
  case case5 happ _ _ =>
    -- a failed attempt: had the limit been reached, the request would have been rejected
    refine Or.inr ⟨rfl, Int.not_le.mp fun hlim => happ ?_⟩
    rw [approve_of_overLimit i (by simp [overLimit, hp, hm, hlim])]; rfl
  case case7 h => exact absurd h hpn

/-- `is ≠ []` is needed: the bound on the iterations is ≤ 0 when `run_count` already exceeds the limit, and then the
empty sequence of iterations is a counterexample (the `example` above). -/
theorem planned_leaves (cfg : Cfg) (is : List In) {k : Keys} {sw : Switch}
    (hm : cfg.switchoverMaxAttempts > 0) (hp : sw.failoverType = false) (hs : k.switch = some sw)
    (hall : ∀ i ∈ is, ActiveManager i ∧ i.perform ≠ .panicked) (hne : is ≠ [])
    (hlen : (is.length : Int) ≥ cfg.switchoverMaxAttempts - sw.runCount + 1) :
    AutoOrFree (is.foldl (fun k i => tick cfg i k) k) := by
  induction is generalizing k sw with
  | nil => exact absurd rfl hne
  | cons i rest ih =>
    obtain ⟨ha, hpn⟩ := hall i (by simp)
    rw [List.foldl_cons]
    rcases planned_tick cfg i hm hp hs ha hpn with h | ⟨h, hlt⟩
    · exact autoOrFree_foldl cfg rest (Or.inl h)
    · have hlen' : (rest.length : Int) ≥ cfg.switchoverMaxAttempts - (sw.runCount + 1) + 1 := by
        simp only [List.length_cons] at hlen; omega
      have hne' : rest ≠ [] := by
        intro e; rw [e] at hlen'; simp at hlen'; omega
      exact ih (sw := { sw with runCount := sw.runCount + 1 }) hp h (fun j hj => hall j (by simp [hj])) hne' hlen'

/-- the same as `C06.planned_switchover_bounded`, with `sw.runCount ≤ cfg.switchoverMaxAttempts` as the extra hypothesis -/
theorem planned_switchover_bounded' (cfg : Cfg) (is : List In) (k : Keys) (sw : Switch)
    (hm : cfg.switchoverMaxAttempts > 0) (hp : sw.failoverType = false)
    (hs : k.switch = some sw)
    (hall : ∀ i ∈ is, ActiveManager i ∧ i.perform ≠ .panicked)
    (hrc : sw.runCount ≤ cfg.switchoverMaxAttempts)
    (hlen : (is.length : Int) ≥ cfg.switchoverMaxAttempts - sw.runCount + 1) :
    (is.foldl (fun k i => tick cfg i k) k).switch ≠ some sw ∧
    ∀ sw', (is.foldl (fun k i => tick cfg i k) k).switch = some sw' → sw'.causeAuto = true := by
  refine (planned_leaves cfg is hm hp hs hall (fun e => ?_) hlen).not_planned hp
  rw [e] at hlen; simp at hlen; omega

end ManagerLemmas
