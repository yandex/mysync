/- Lemmas for C15, part 3: running the client programs (`runSeq`: more fuel, well-formedness, sequencing with
`bindErr`), and `makePath` as such a run: the key is split `q = u ++ v` at its deepest existing prefix `u`, and the
keys `below u v` are created. -/
import MysyncModel.Dcs.Zk
import MysyncProofs.Lemmas.ZkServer

namespace ZkLemmas
open Zk

theorem runSeq_ret {α : Type} (s : Server) (sid : Sid) (a : α) (fuel : Nat) :
    runSeq s sid (.ret a) fuel = some (s, a) := rfl

theorem runSeq_call {α : Type} (s : Server) (sid : Sid) (p : Prim) (k : Resp → Prog α) (fuel : Nat) :
    runSeq s sid (.call p k) (fuel + 1) = runSeq (s.step sid p).1 sid (k (s.step sid p).2) fuel := by
  simp [runSeq]

theorem runSeq_call_zero {α : Type} (s : Server) (sid : Sid) (p : Prim) (k : Resp → Prog α) :
    runSeq s sid (.call p k) 0 = none := by
  simp [runSeq]

theorem runSeq_call_some {α : Type} {s : Server} {sid : Sid} {p : Prim} {k : Resp → Prog α} {fuel : Nat}
    {x : Server × α} (h : runSeq s sid (.call p k) fuel = some x) :
    ∃ f, fuel = f + 1 ∧ runSeq (s.step sid p).1 sid (k (s.step sid p).2) f = some x := by
  cases fuel with
  | zero => rw [runSeq_call_zero] at h; cases h
  | succ f => exact ⟨f, rfl, by rwa [runSeq_call] at h⟩

theorem runSeq_mono {α : Type} {sid : Sid} {x : Server × α} {prog : Prog α} :
    ∀ {fuel fuel' : Nat} {s : Server}, runSeq s sid prog fuel = some x → fuel ≤ fuel' →
      runSeq s sid prog fuel' = some x := by
  induction prog with
  | ret a => intro _ _ _ h _; rwa [runSeq_ret] at h ⊢
  | call p k ih =>
    intro fuel fuel' s h hle
    obtain ⟨f, rfl, h'⟩ := runSeq_call_some h
    obtain ⟨f', rfl⟩ := Nat.exists_eq_add_one_of_ne_zero (n := fuel') (by omega)
    rw [runSeq_call]
    exact ih _ h' (by omega)

theorem runSeq_wf {α : Type} {sid : Sid} {s' : Server} {a : α} {prog : Prog α} :
    ∀ {fuel : Nat} {s : Server}, runSeq s sid prog fuel = some (s', a) → WF s →
      (sid ≠ 0 → sid ∈ s.live) → WF s' ∧ s'.live = s.live := by
  induction prog with
  | ret a => intro _ s h hw _; rw [runSeq_ret] at h; cases h; exact ⟨hw, rfl⟩
  | call p k ih =>
    intro fuel s h hw hl
    obtain ⟨f, rfl, h'⟩ := runSeq_call_some h
    have u := step_upd s sid p
    obtain ⟨h1, h2⟩ := ih _ h' (u.wf hw hl) (by rw [u.live]; exact hl)
    exact ⟨h1, h2.trans u.live⟩

theorem runSeq_bindErr {sid : Sid} {K : Prog Res} {s1 : Server} {x : Server × Res} {fuel' : Nat}
    (hK : runSeq s1 sid K fuel' = some x) :
    ∀ {m : Prog (Option Err)} {fuel : Nat} {s : Server}, runSeq s sid m fuel = some (s1, none) →
      runSeq s sid (bindErr m K) (fuel + fuel') = some x := by
  intro m
  induction m with
  | ret o =>
    intro fuel s h
    rw [runSeq_ret] at h
    cases h
    exact runSeq_mono hK (by omega)
  | call p f ih =>
    intro fuel s h
    obtain ⟨n, rfl, h'⟩ := runSeq_call_some h
    rw [show n + 1 + fuel' = (n + fuel') + 1 by omega, bindErr, runSeq_call]
    exact ih _ h'

theorem opCreate_run {s s' : Server} {sid : Sid} {p : Path} {d : String} {eph : Bool} {r : Res} {fuel : Nat}
    (h : runSeq s sid (opCreate p d eph) fuel = some (s', r)) :
    s' = (s.step sid (.create p d eph)).1 ∧
    r = match (s.step sid (.create p d eph)).2 with
        | .created => .ok
        | .err .nodeExists => .exists_
        | r => .err (errOf r) := by
  obtain ⟨f, rfl, h'⟩ := runSeq_call_some h
  -- whatever the reply, the continuation returns at once: the three rows of `opCreate`
  split at h' <;> (rw [runSeq_ret] at h'; cases h'; simp_all)

def plain : ZNode := { data := "", version := 0, owner := 0 }

def addPlain (s : Server) (ps : List Path) : Server := { s with nodes := s.nodes ++ ps.map fun x => (x, plain) }

theorem addPlain_nil (s : Server) : addPlain s [] = s := by
  simp [addPlain]

theorem addPlain_cons (s : Server) (x : Path) (ps : List Path) (hx : s.find? x = none) :
    addPlain s (x :: ps) = addPlain (s.put x plain) ps := by
  simp [addPlain, put_of_none _ hx]

@[simp] theorem addPlain_live (s : Server) (ps : List Path) : (addPlain s ps).live = s.live := rfl

theorem lk_plain (ps : List Path) (x : Path) :
    lk (ps.map fun y => (y, plain)) x = if x ∈ ps then some plain else none := by
  induction ps with
  | nil => simp
  | cons y ps ih =>
    simp only [List.map_cons, lk_cons, ih, List.mem_cons]
    by_cases h : y = x
    · simp [h]
    · simp [h, Ne.symm h]

theorem find?_addPlain (s : Server) (ps : List Path) (x : Path) :
    (addPlain s ps).find? x = (s.find? x).or (if x ∈ ps then some plain else none) := by
  simp only [find?_eq_lk, addPlain, lk_append, lk_plain]

/-- the keys below `a` along the names `b`: `a ++ [b₀]`, `a ++ [b₀, b₁]`, … -/
def below (a : Path) : List String → List Path
  | [] => []
  | c :: b => (a ++ [c]) :: below (a ++ [c]) b

theorem below_append (a : Path) (u v : List String) : below a (u ++ v) = below a u ++ below (a ++ u) v := by
  induction u generalizing a with
  | nil => simp [below]
  | cons c u ih => simp [below, ih]

theorem mem_below {a x : Path} {b : List String} : x ∈ below a b ↔ ∃ w, w ≠ [] ∧ w <+: b ∧ x = a ++ w := by
  induction b using List.reverse_induction with
  | nil => simpa [below] using fun w hw h => absurd h hw
  | snoc b c ih =>
    simp only [below_append, below, List.mem_append, List.mem_singleton, ih, List.prefix_concat_iff]
    constructor
    · rintro (⟨w, hw, hwb, rfl⟩ | rfl)
      · exact ⟨w, hw, Or.inr hwb, rfl⟩
      · exact ⟨b ++ [c], by simp, Or.inl rfl, by simp⟩
    · rintro ⟨w, hw, rfl | hwb, rfl⟩
      · exact Or.inr (by simp)
      · exact Or.inl ⟨w, hw, hwb, rfl⟩

theorem mem_below_nil {x q : Path} : x ∈ below [] q ↔ x ≠ [] ∧ x <+: q := by
  simp [mem_below]

theorem prefixesDown_concat (q : Path) (c : String) : prefixesDown (q ++ [c]) = (q ++ [c]) :: prefixesDown q := by
  simp only [prefixesDown, List.length_append, List.length_singleton, List.range_succ, List.map_append,
    List.reverse_append, List.map_singleton, List.reverse_singleton, List.singleton_append]
  rw [List.take_of_length_le (by simp)]
  congr 2
  exact List.map_congr_left fun i hi => List.take_append_of_le_length (Nat.succ_le_of_lt (List.mem_range.1 hi))

/-- the state `makePath` works in: `u` is the root or a plain entry, and the keys below it along `v` are missing -/
structure Gap (s : Server) (u : Path) (v : List String) : Prop where
  par : u = [] ∨ ∃ m, s.find? u = some m ∧ m.owner = 0
  miss : ∀ x ∈ below u v, s.find? x = none

theorem createAll_run (sid : Sid) : ∀ v u s, Gap s u v →
    runSeq s sid (createAll (below u v) (.ret none)) v.length = some (addPlain s (below u v), none) := by
  intro v
  induction v with
  | nil => intro u s _; rw [below, addPlain_nil, createAll, runSeq_ret]
  | cons c v ih =>
    intro u s g
    have hnone := g.miss _ (List.mem_cons_self ..)
    have hstep := step_create_ok sid "" false (List.concat_ne_nil c u) hnone (by rw [List.dropLast_concat]; exact g.par)
    rw [below, addPlain_cons _ _ _ hnone, createAll, List.length_cons, runSeq_call, hstep]
    refine ih _ _ ⟨Or.inr ⟨plain, find?_put_self _ _ _, rfl⟩, fun x hx => ?_⟩
    obtain ⟨w, hw, _, rfl⟩ := mem_below.1 hx
    rw [find?_put_other _ _ _ _ (by simpa using hw)]
    exact g.miss _ (List.mem_cons_of_mem _ hx)

/-- `probeDown` from `u` downwards only reads; it then creates exactly the keys below the deepest existing
prefix, `u'` -/
theorem probeDown_run (sid : Sid) (s : Server) (q : Path)
    (hanc : ∀ x, x <+: q → ∀ n, s.find? x = some n → n.owner = 0) :
    ∀ u v, u ++ v = q → (∀ x ∈ below u v, s.find? x = none) →
      ∃ u' v', u' ++ v' = q ∧ Gap s u' v' ∧
        runSeq s sid (probeDown (prefixesDown u) (below u v)) (u.length + q.length + 1) =
          some (addPlain s (below u' v'), none) := by
  intro u
  induction u using List.reverse_induction with
  | nil =>
    intro v hq hmiss
    have g : Gap s [] v := ⟨Or.inl rfl, hmiss⟩
    exact ⟨[], v, hq, g, runSeq_mono (createAll_run sid v [] s g) (by subst hq; simp)⟩
  | snoc u c ih =>
    intro v hq hmiss
    rw [prefixesDown_concat, probeDown, List.length_append, List.length_singleton,
      show u.length + 1 + q.length + 1 = (u.length + q.length + 1) + 1 by omega, runSeq_call]
    cases hf : s.find? (u ++ [c]) with
    | some m =>
      have g : Gap s (u ++ [c]) v := ⟨Or.inr ⟨m, hf, hanc _ ⟨v, hq⟩ m hf⟩, hmiss⟩
      rw [step_get_some sid hf]
      exact ⟨_, v, hq, g, runSeq_mono (createAll_run sid v _ s g) (by subst hq; simp; omega)⟩
    | none =>
      rw [step_get_none sid (List.concat_ne_nil c u) hf]
      exact ih (c :: v) (by simpa using hq) (List.forall_mem_cons.2 ⟨hf, hmiss⟩)

theorem makePath_run (s : Server) (sid : Sid) (q : Path) (hw : WF s)
    (hanc : ∀ x, x <+: q → ∀ n, s.find? x = some n → n.owner = 0) :
    ∃ s2, runSeq s sid (makePath q) (2 * q.length + 1) = some (s2, none) ∧
      ∀ x, s2.find? x = (s.find? x).or (if x ∈ below [] q then some plain else none) := by
  obtain ⟨u, v, rfl, g, hrun⟩ := probeDown_run sid s q hanc q [] (List.append_nil q) (fun _ h => nomatch h)
  refine ⟨_, (by rw [Nat.two_mul]; exact hrun), fun x => ?_⟩
  rw [find?_addPlain]
  cases hf : s.find? x with
  | some n => rfl
  | none =>
    -- a missing key is not a prefix of the deepest existing one
    have : x ∉ below [] u := fun hx => by
      obtain ⟨hx0, hxu⟩ := mem_below_nil.1 hx
      rcases g.par with rfl | ⟨m, hm, _⟩
      · exact hx0 (List.prefix_nil.1 hxu)
      · have := hw.prefix_exists (by rw [hm]; rfl) hxu hx0
        rw [hf] at this; cases this
    simp [below_append, this]

end ZkLemmas
