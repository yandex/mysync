/- Lemmas for C19: the registry+settings world under a trace (the traces themselves: OptimizationTrace.lean). -/
import MysyncModel.App.Optimization
import MysyncProofs.Lemmas.ListFacts

namespace OptimizationLemmas
open NS Optimization

theorem get_set_same (w : World) (h : String) (s : RS) : (w.set h s).get h = s := by
  simp [World.get, World.set]

theorem get_set_other (w : World) (h x : String) (s : RS) (hx : x ≠ h) : (w.set h s).get x = w.get x := by
  have : (x == h) = false := by simpa using hx
  simp [World.get, World.set, List.lookup_cons, this, List.lookup_filter_ne _ hx]

theorem registered_set (w : World) (h : String) (s : RS) : (w.set h s).registered = w.registered := rfl

theorem run_nil (w : World) (m : RS) : w.run m [] = w := rfl
theorem run_cons (w : World) (m : RS) (e : Ev) (t : List Ev) : w.run m (e :: t) = (w.apply m e).run m t := rfl
theorem run_append (w : World) (m : RS) (a b : List Ev) : w.run m (a ++ b) = (w.run m a).run m b := by
  simp [World.run, List.foldl_append]

def NoReg (t : List Ev) : Prop := ∀ e ∈ t, ∀ h, e.call ≠ .register h

theorem apply_registered_sublist (w : World) (m : RS) (e : Ev) (he : ∀ h, e.call ≠ .register h) :
    (w.apply m e).registered.Sublist w.registered := by
  fun_cases World.apply w m e
  case case3 => exact List.filter_sublist
  case case4 h => exact absurd rfl (he h)
  all_goals exact List.Sublist.refl _

theorem run_registered_sublist (w : World) (m : RS) (t : List Ev) (ht : NoReg t) :
    (w.run m t).registered.Sublist w.registered :=
  List.foldlRecOn (motive := fun w' => w'.registered.Sublist w.registered) t _ (List.Sublist.refl _)
    fun w' hw' e he => (apply_registered_sublist w' m e (ht e he)).trans hw'

/-- the host is dropped at that event, and nothing after it registers -/
theorem run_deregistered (w : World) (m : RS) (t : List Ev) (x : String) (ht : NoReg t)
    (hx : (⟨.deregister x, true⟩ : Ev) ∈ t) : x ∉ (w.run m t).registered := by
  obtain ⟨a, b, rfl⟩ := List.append_of_mem hx
  rw [run_append, run_cons]
  intro hmem
  have := (run_registered_sublist _ m b fun e he => ht e (by simp [he])).subset hmem
  simp [World.apply] at this

theorem apply_get (w : World) (m : RS) (e : Ev) (x : String) (he : e ≠ ⟨.relax x, true⟩) :
    (w.apply m e).get x = m ∨ (w.apply m e).get x = w.get x := by
  fun_cases World.apply w m e
  case case1 h =>
    by_cases hh : x = h
    · subst hh; exact Or.inl (get_set_same _ _ _)
    · exact Or.inr (get_set_other _ _ _ _ hh)
  case case2 h => exact Or.inr (get_set_other _ _ _ _ fun hh => he (hh ▸ rfl))
  all_goals exact Or.inr rfl

theorem get_run_no_relax (w : World) (m : RS) (t : List Ev) (x : String)
    (hx : (⟨.relax x, true⟩ : Ev) ∉ t) : (w.run m t).get x = m ∨ (w.run m t).get x = w.get x :=
  List.foldlRecOn (motive := fun w' => w'.get x = m ∨ w'.get x = w.get x) t _ (Or.inr rfl) fun w' hw' e he =>
    (apply_get w' m e x fun h => hx (h ▸ he)).elim Or.inl fun h => by rw [h]; exact hw'

/-- the host has the master's settings after the restore, and what follows leaves them or restores again -/
theorem get_run_restored (w : World) (m : RS) (t : List Ev) (x : String)
    (hr : (⟨.restore x, true⟩ : Ev) ∈ t) (hx : (⟨.relax x, true⟩ : Ev) ∉ t) : (w.run m t).get x = m := by
  obtain ⟨a, b, rfl⟩ := List.append_of_mem hr
  rw [run_append, run_cons]
  rcases get_run_no_relax ((w.run m a).apply m ⟨.restore x, true⟩) m b x (fun h => hx (by simp [h])) with h | h
  · exact h
  · rw [h]; exact get_set_same _ _ _

end OptimizationLemmas
