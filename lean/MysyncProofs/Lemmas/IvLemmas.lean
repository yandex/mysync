/-
Interval lists: the denotation `IvList.Mem`, the normal form (`normal_iff`: non-empty intervals,
pairwise separated by gaps), `ivContain` as inclusion, uniqueness of the normal form, and the
two-pointer subtraction `ivMinus`/`minusOne` as set difference.
-/
import MysyncModel.Gtid

namespace GtidLemmas
open Gtid

theorem mem_nil (x : Int) : IvList.Mem x [] ↔ False := by
  simp [IvList.Mem]

theorem mem_cons (x : Int) (iv : Interval) (l : IvList) :
    IvList.Mem x (iv :: l) ↔ ((iv.start ≤ x ∧ x < iv.stop) ∨ IvList.Mem x l) := by
  simp [IvList.Mem]

theorem mem_append (x : Int) (l1 l2 : IvList) :
    IvList.Mem x (l1 ++ l2) ↔ (IvList.Mem x l1 ∨ IvList.Mem x l2) := by
  induction l1 with
  | nil => simp [mem_nil]
  | cons iv l ih => simp only [List.cons_append, mem_cons, ih, or_assoc]

theorem mem_single (x : Int) (iv : Interval) :
    IvList.Mem x [iv] ↔ (iv.start ≤ x ∧ x < iv.stop) := by
  simp [IvList.Mem]

/-- `Normal` without the recursion -/
theorem normal_iff (l : IvList) :
    Normal l ↔ (∀ i ∈ l, i.start < i.stop) ∧ l.Pairwise fun i j => i.stop < j.start := by
  induction l with
  | nil => simp [Normal]
  | cons iv l ih =>
    cases l with
    | nil => simp [Normal]
    | cons jv r =>
      rw [Normal, ih]
      simp only [List.forall_mem_cons, List.pairwise_cons]
      constructor
      · rintro ⟨a, b, ⟨c, d⟩, e, f⟩
        -- a gap before `jv` is a gap before everything after `jv`
        exact ⟨⟨a, c, d⟩, ⟨b, fun x hx => by have := e x hx; omega⟩, e, f⟩
      · rintro ⟨⟨a, c, d⟩, ⟨b, _⟩, e, f⟩
        exact ⟨a, b, ⟨c, d⟩, e, f⟩

theorem normal_cons {iv : Interval} {l : IvList} :
    Normal (iv :: l) ↔ iv.start < iv.stop ∧ (∀ j ∈ l, iv.stop < j.start) ∧ Normal l := by
  simp only [normal_iff, List.forall_mem_cons, List.pairwise_cons]
  exact ⟨fun ⟨⟨a, b⟩, c, d⟩ => ⟨a, c, b, d⟩, fun ⟨a, c, b, d⟩ => ⟨⟨a, b⟩, c, d⟩⟩

theorem normal_append {l1 l2 : IvList} :
    Normal (l1 ++ l2) ↔ Normal l1 ∧ Normal l2 ∧ ∀ i ∈ l1, ∀ j ∈ l2, i.stop < j.start := by
  simp only [normal_iff, List.forall_mem_append, List.pairwise_append]
  exact ⟨fun ⟨⟨a, b⟩, c, d, e⟩ => ⟨⟨a, c⟩, ⟨b, d⟩, e⟩, fun ⟨⟨a, c⟩, ⟨b, d⟩, e⟩ => ⟨⟨a, b⟩, c, d, e⟩⟩

theorem normal_single (iv : Interval) : Normal [iv] ↔ iv.start < iv.stop := Iff.rfl

theorem _root_.Gtid.Normal.head {iv : Interval} {l : IvList} (h : Normal (iv :: l)) : iv.start < iv.stop :=
  (normal_cons.1 h).1

theorem _root_.Gtid.Normal.tail {iv : Interval} {l : IvList} (h : Normal (iv :: l)) : Normal l :=
  (normal_cons.1 h).2.2

theorem _root_.Gtid.Normal.nonempty {l : IvList} (h : Normal l) : ∀ i ∈ l, i.start < i.stop :=
  ((normal_iff l).1 h).1

theorem _root_.Gtid.Normal.mem_above {iv : Interval} {l : IvList} (h : Normal (iv :: l)) {x : Int}
    (hx : IvList.Mem x l) : iv.stop < x := by
  obtain ⟨j, hj, h1, _⟩ := hx
  have := (normal_cons.1 h).2.1 j hj
  omega

theorem mem_cons_of_stop_le {x : Int} {iv : Interval} {l : IvList} (h : iv.stop ≤ x) :
    IvList.Mem x (iv :: l) ↔ IvList.Mem x l := by
  rw [mem_cons]
  exact ⟨fun h' => h'.resolve_left (by omega), Or.inr⟩

theorem mem_cons_of_lt_stop {x : Int} {iv : Interval} {l : IvList} (hn : Normal (iv :: l))
    (h : x < iv.stop) : IvList.Mem x (iv :: l) ↔ iv.start ≤ x := by
  rw [mem_cons]
  exact ⟨fun h' => h'.elim (·.1) fun hm => by have := hn.mem_above hm; omega, fun h' => Or.inl ⟨h', h⟩⟩

theorem _root_.Gtid.Normal.start_mem {iv : Interval} {l : IvList} (h : Normal (iv :: l)) :
    IvList.Mem iv.start (iv :: l) :=
  (mem_cons _ _ _).2 (Or.inl ⟨Int.le_refl _, h.head⟩)

theorem _root_.Gtid.Normal.exists_mem {l : IvList} (h : Normal l) (hne : l ≠ []) : ∃ x, IvList.Mem x l := by
  cases l with
  | nil => exact absurd rfl hne
  | cons iv r => exact ⟨iv.start, h.start_mem⟩

theorem eq_nil_of_no_mem {l : IvList} (h : Normal l) (hno : ∀ x, ¬ IvList.Mem x l) : l = [] :=
  Classical.byContradiction fun hne => (h.exists_mem hne).elim hno

/-- intervals of a normal list lie inside any range that bounds all its members -/
theorem _root_.Gtid.Normal.bounds {l : IvList} (h : Normal l) {lo hi : Int}
    (hb : ∀ x, IvList.Mem x l → lo ≤ x ∧ x < hi) : ∀ i ∈ l, lo ≤ i.start ∧ i.stop ≤ hi := by
  intro i hi'
  have hne := h.nonempty i hi'
  have h1 := hb i.start ⟨i, hi', Int.le_refl _, hne⟩
  have h2 := hb (i.stop - 1) ⟨i, hi', by omega, by omega⟩
  omega

theorem stop_not_mem {iv : Interval} {l : IvList} (h : Normal (iv :: l)) : ¬ IvList.Mem iv.stop (iv :: l) :=
  fun hm => Int.lt_irrefl _ (h.mem_above ((mem_cons_of_stop_le (Int.le_refl _)).1 hm))

theorem find_contain_iff (s : IvList) (hs : Normal s) (iv : Interval) (hiv : iv.start < iv.stop) :
    (match s.find? (fun j => decide (iv.start ≤ j.stop)) with
      | none => false
      | some j => !(decide (iv.start < j.start) || decide (iv.stop > j.stop))) = true ↔
    ∀ x, iv.start ≤ x → x < iv.stop → IvList.Mem x s := by
  induction s with
  | nil => exact ⟨nofun, fun h => ((mem_nil _).1 (h iv.start (Int.le_refl _) hiv)).elim⟩
  | cons j r ih =>
    rw [List.find?_cons]
    by_cases hj : iv.start ≤ j.stop
    · -- `j` is the interval found: the range must lie inside it, because a gap follows `j`
      simp only [decide_eq_true hj, Bool.not_eq_true', Bool.or_eq_false_iff, decide_eq_false_iff_not, gt_iff_lt]
      constructor
      · intro ⟨h1, h2⟩ x hx1 hx2
        exact (mem_cons_of_lt_stop hs (by omega)).2 (by omega)
      · intro h
        have h0 := stop_not_mem hs
        have hne : iv.start ≠ j.stop := fun e => h0 (e ▸ h iv.start (Int.le_refl _) hiv)
        have hlt : iv.start < j.stop := by omega
        have := (mem_cons_of_lt_stop hs hlt).1 (h iv.start (Int.le_refl _) hiv)
        exact ⟨by omega, fun h2 => h0 (h j.stop hj h2)⟩
    · -- `j` ends before the range starts
      simp only [decide_eq_false hj]
      rw [ih hs.tail]
      exact forall_congr' fun x => forall_congr' fun hx => forall_congr' fun _ =>
        (mem_cons_of_stop_le (by omega)).symm

theorem ivContain_iff (s sub : IvList) (hs : Normal s) (hsub : ∀ i ∈ sub, i.start < i.stop) :
    ivContain s sub = true ↔ ∀ x, IvList.Mem x sub → IvList.Mem x s := by
  unfold ivContain
  rw [List.all_eq_true]
  constructor
  · intro h x ⟨iv, hiv, hx1, hx2⟩
    exact (find_contain_iff s hs iv (hsub iv hiv)).mp (h iv hiv) x hx1 hx2
  · intro h iv hiv
    exact (find_contain_iff s hs iv (hsub iv hiv)).mpr fun x hx1 hx2 => h x ⟨iv, hiv, hx1, hx2⟩

theorem _root_.Gtid.Normal.mem_ge {iv : Interval} {l : IvList} (h : Normal (iv :: l)) {x : Int}
    (hx : IvList.Mem x (iv :: l)) : iv.start ≤ x := by
  rcases (mem_cons x iv l).mp hx with hx | hx
  · exact hx.1
  · have := h.mem_above hx
    have := h.head
    omega

/-- the head of a normal list stops at the first number above its start that is not a member -/
theorem head_stop_le {i j : Interval} {r1 r2 : IvList} (h1 : Normal (i :: r1))
    (hs : i.start = j.start) (h : ∀ x, IvList.Mem x (j :: r2) → IvList.Mem x (i :: r1)) :
    j.stop ≤ i.stop := by
  apply Classical.byContradiction
  intro hlt
  have := h1.head
  exact stop_not_mem h1 (h i.stop ((mem_cons _ _ _).2 (Or.inl ⟨by omega, by omega⟩)))

theorem tail_sub {i : Interval} {r1 r2 : IvList} (h1 : Normal (i :: r1))
    (h : ∀ x, IvList.Mem x (i :: r1) → IvList.Mem x (i :: r2)) (x : Int) (hx : IvList.Mem x r1) :
    IvList.Mem x r2 :=
  (mem_cons_of_stop_le (Int.le_of_lt (h1.mem_above hx))).1 (h x ((mem_cons _ _ _).2 (Or.inr hx)))

theorem normal_unique (l1 l2 : IvList) (h1 : Normal l1) (h2 : Normal l2)
    (h : ∀ x, IvList.Mem x l1 ↔ IvList.Mem x l2) : l1 = l2 := by
  induction l1 generalizing l2 with
  | nil => exact (eq_nil_of_no_mem h2 fun x hx => (mem_nil x).1 ((h x).2 hx)).symm
  | cons i r1 ih =>
    cases l2 with
    | nil => exact eq_nil_of_no_mem h1 fun x hx => (mem_nil x).1 ((h x).1 hx)
    | cons j r2 =>
      have hs : i.start = j.start :=
        Int.le_antisymm (h1.mem_ge ((h _).2 h2.start_mem)) (h2.mem_ge ((h _).1 h1.start_mem))
      have he : i.stop = j.stop :=
        Int.le_antisymm (head_stop_le h2 hs.symm fun x => (h x).1) (head_stop_le h1 hs fun x => (h x).2)
      obtain rfl : i = j := by
        cases i; cases j; simp only at hs he; rw [hs, he]
      rw [ih r2 h1.tail h2.tail fun x => ⟨tail_sub h1 (fun x => (h x).1) x, tail_sub h2 (fun x => (h x).2) x⟩]

/-- what one run of the inner loop of `intervalSliceMinus` guarantees -/
structure MinusOneSpec (cur stop : Int) (b : IvList) (p : IvList × IvList) : Prop where
  normal : Normal p.1
  mem : ∀ x, IvList.Mem x p.1 ↔ (cur ≤ x ∧ x < stop ∧ ¬ IvList.Mem x b)
  restNormal : Normal p.2
  restMem : ∀ x, stop ≤ x → (IvList.Mem x p.2 ↔ IvList.Mem x b)

theorem MinusOneSpec.bounds {cur stop : Int} {b : IvList} {p : IvList × IvList} (h : MinusOneSpec cur stop b p) :
    ∀ i ∈ p.1, cur ≤ i.start ∧ i.stop ≤ stop :=
  h.normal.bounds fun x hx => ⟨((h.mem x).1 hx).1, ((h.mem x).1 hx).2.1⟩

theorem range_spec (a b : Int) :
    Normal (if a < b then [(⟨a, b⟩ : Interval)] else []) ∧
    ∀ x, IvList.Mem x (if a < b then [(⟨a, b⟩ : Interval)] else []) ↔ a ≤ x ∧ x < b := by
  by_cases h : a < b
  · rw [if_pos h]; exact ⟨h, fun x => mem_single x _⟩
  · rw [if_neg h]; exact ⟨trivial, fun x => by rw [mem_nil, false_iff]; omega⟩

theorem minusOne_spec (b : IvList) (hb : Normal b) (cur stop : Int) :
    MinusOneSpec cur stop b (minusOne cur stop b) := by
  fun_induction minusOne cur stop b with
  | case1 cur =>
    exact ⟨(range_spec cur stop).1, fun x => by rw [(range_spec cur stop).2, mem_nil, not_false_eq_true, and_true],
      trivial, fun _ _ => Iff.rfl⟩
  | case2 cur bj bs h1 =>
    exact ⟨trivial, fun x => by rw [mem_nil, false_iff]; omega, hb, fun _ _ => Iff.rfl⟩
  | case3 cur bj bs h1 h2 ih =>
    have ih := ih hb.tail
    refine ⟨ih.normal, fun x => ?_, ih.restNormal, fun x hx => ?_⟩
    · rw [ih.mem]
      exact and_congr_right fun _ => and_congr_right fun _ => not_congr (mem_cons_of_stop_le (by omega)).symm
    · rw [ih.restMem x hx, mem_cons_of_stop_le (by omega)]
  | case4 cur bj bs h1 h2 h3 =>
    have := hb.head
    refine ⟨Int.not_le.1 h1, fun x => ?_, hb, fun _ _ => Iff.rfl⟩
    simp only [mem_single]
    exact and_congr_right fun _ => (and_iff_left_of_imp fun _ => by
      rw [mem_cons_of_lt_stop hb (by omega)]; omega).symm
  | case5 cur bj bs h1 h2 h3 pre h4 =>
    refine ⟨(range_spec cur bj.start).1, fun x => ?_, hb, fun _ _ => Iff.rfl⟩
    rw [(range_spec cur bj.start).2 x]
    -- below `bj.stop` membership in `b` is `bj.start ≤ x`, and nothing from there on is below `stop`
    rcases Int.lt_or_le x bj.stop with hx | hx
    · rw [mem_cons_of_lt_stop hb hx]; omega
    · rw [mem_cons_of_stop_le hx]; omega
  | case6 cur bj bs h1 h2 h3 pre h4 r rest heq ih =>
    have ih := heq ▸ ih hb.tail
    have hpre := range_spec cur bj.start
    have := hb.head
    refine ⟨normal_append.2 ⟨hpre.1, ih.normal, fun i hi j hj => ?_⟩, fun x => ?_, ih.restNormal,
      fun x hx => ?_⟩
    · have := hpre.1.bounds (fun x hx => (hpre.2 x).1 hx) i hi
      have := ih.bounds j hj
      omega
    · rw [mem_append, hpre.2, ih.mem]
      rcases Int.lt_or_le x bj.stop with hx | hx
      · rw [mem_cons_of_lt_stop hb hx]; omega
      · -- from `bj.stop` on: not in `pre`, and above `cur` anyway
        rw [mem_cons_of_stop_le hx, or_iff_right (by omega), and_iff_right hx, and_iff_right (show cur ≤ x by omega)]
    · rw [ih.restMem x hx, mem_cons_of_stop_le (by omega)]

theorem ivMinus_spec (a b : IvList) (ha : Normal a) (hb : Normal b) :
    Normal (ivMinus a b) ∧ ∀ x, IvList.Mem x (ivMinus a b) ↔ (IvList.Mem x a ∧ ¬ IvList.Mem x b) := by
  fun_induction ivMinus a b with
  | case1 => exact ⟨trivial, fun x => by rw [mem_nil, false_and]⟩
  | case2 iv as b r b' heq ih =>
    have hm := heq ▸ minusOne_spec b hb iv.start iv.stop
    obtain ⟨ihN, ihM⟩ := ih ha.tail hm.restNormal
    refine ⟨normal_append.2 ⟨hm.normal, ihN, fun i hi j hj => ?_⟩, fun x => ?_⟩
    · -- `r` lies inside `iv`; what follows starts at a member of `as`, beyond `iv.stop`
      have := hm.bounds i hi
      have := ha.mem_above ((ihM _).1 ⟨j, hj, Int.le_refl _, ihN.nonempty j hj⟩).1
      omega
    · -- beyond `iv.stop`, where the members of `as` are, `b'` has the members of `b`
      have hrest : IvList.Mem x as → (IvList.Mem x b' ↔ IvList.Mem x b) := fun h =>
        hm.restMem x (Int.le_of_lt (ha.mem_above h))
      rw [mem_append, hm.mem, ihM, mem_cons, or_and_right]
      exact or_congr and_assoc.symm (and_congr_right fun h => not_congr (hrest h))

end GtidLemmas
