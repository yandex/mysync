/- Lemmas for C04, part 3: the complete fault-free iteration restores (a) and (b).
Parts 1-2: ActiveNodesCalc, ActiveNodesTrace. -/
import MysyncProofs.Lemmas.ActiveNodesTrace

namespace ActiveNodesLemmas
open NS Gtid ActiveNodes

theorem adjustMaster_ok (i : UpdIn) (hok : ∀ c, i.fails c = false) (ss : SemiSyncState) (wsc : Int) :
    (adjustMaster i (some ss) wsc).2 = true := by
  generalize hms : some ss = ms  -- `fun_cases` wants variables
  fun_cases adjustMaster i ms wsc
  -- the two rows that report failure: no snapshot, and raising the count failed
  case case1 => cases hms
  case case4 h => simp [hok] at h
  all_goals simp [hok]

theorem effWait_run_adjustMaster (i : UpdIn) (hok : ∀ c, i.fails c = false) (ss : SemiSyncState) (wsc : Int) (w : World)
    (hme : w.masterEnabled = ss.masterEnabled) (hwc : w.waitCount = ss.waitSlaveCount) :
    effWait (w.run i.master (adjustMaster i (some ss) wsc).1) = wsc := by
  unfold adjustMaster
  dsimp only
  by_cases h0 : wsc = 0 <;> by_cases h1 : ss.masterEnabled = true <;> by_cases h2 : ss.waitSlaveCount = wsc <;>
    simp [h0, h1, h2, hme, hwc, hok, run_cons, run_nil, World.applyEv, apply_ssDisable_self, apply_ssSetMaster_self,
      apply_ssWaitCount_self, effWait] <;> omega

theorem enableLoop_ok (i : UpdIn) (hok : ∀ c, i.fails c = false) (hs : List String) (wsc : Int) (active : List String) :
    (enableLoop i hs wsc active).2 = (wsc, active) := by
  fun_induction enableLoop i hs wsc active
  case case1 => rfl
  -- the two rows with a failed call
  case case2 h _ _ _ _ _ | case3 h _ _ _ _ _ => rw [hok] at h; cases h
  case case4 hr ih => rw [hr] at ih; exact ih

/-- `SetActiveNodes` -/
def setPublished (w : World) (l : List String) : World := ⟨w.slaveEnabled, w.masterEnabled, w.waitCount, l⟩

theorem run_publishPart_ok (i : UpdIn) (hok : ∀ c, i.fails c = false) (w : World) (a : List String) :
    w.run i.master (publishPart i a) = setPublished w a := by
  fun_cases publishPart i a
  case case2 h => rw [hok] at h; cases h
  all_goals rw [hok]; rfl

theorem seg1_ok (cfg : Cfg) (i : UpdIn) (hok : ∀ c, i.fails c = false) (ss : SemiSyncState) (hms : msOf i = some ss) :
    (seg1 cfg i).2 = true := by
  unfold seg1
  split
  · rw [hms]; exact adjustMaster_ok i hok ss _
  · rfl

theorem run_updateSemiSync_ok (cfg : Cfg) (i : UpdIn) (w : World) (hok : ∀ c, i.fails c = false)
    (ss : SemiSyncState) (hms : msOf i = some ss) :
    w.run i.master (updateSemiSync cfg i) = setPublished (w.run i.master (body cfg i)) i.active := by
  have hl : (loopOf cfg i).2.2 = i.active := by
    unfold loopOf; rw [enableLoop_ok i hok]
  rw [updateSemiSync_eq]
  simp only [hok, seg1_ok cfg i hok ss hms, Bool.false_eq_true, if_false, Bool.not_true, hl]
  rw [run_cons, run_append, run_publishPart_ok i hok]
  rfl

/-- the semi-sync world described by the snapshot the iteration works from (same as `C04.WorldMatches`) -/
def WorldMatches (i : UpdIn) (w : World) : Prop :=
  (∀ h, h ∈ w.slaveEnabled ↔ ∃ s ss, i.cs.get? h = some s ∧ s.semiSync = some ss ∧ ss.slaveEnabled = true) ∧
  (∃ ms ss, i.cs.get? i.master = some ms ∧ ms.semiSync = some ss ∧ w.masterEnabled = ss.masterEnabled ∧ w.waitCount = ss.waitSlaveCount) ∧
  w.published = i.oldActive

theorem WorldMatches.msOf {i : UpdIn} {w : World} (hw : WorldMatches i w) :
    ∃ ss, msOf i = some ss ∧ w.masterEnabled = ss.masterEnabled ∧ w.waitCount = ss.waitSlaveCount := by
  obtain ⟨-, ⟨ms, ss, h1, h2, h3, h4⟩, -⟩ := hw
  exact ⟨ss, by simp [ActiveNodesLemmas.msOf, h1, h2], h3, h4⟩

/-- (a) after a complete fault-free iteration (the hypothesis `i.master ∉ becomeActive` of the C04
statement is not needed) -/
theorem complete_iteration_restores_A (cfg : Cfg) (i : UpdIn) (w : World)
    (hw : WorldMatches i w) (hok : ∀ c, i.fails c = false)
    (hchg : i.changes.becomeInactive = filterOut ((i.cs.filter fun e => match e.2.semiSync with | some ss => ss.slaveEnabled | none => false).map (·.1)) i.active)
    (hsub : ∀ h, h ∈ i.changes.becomeActive → h ∈ i.active) :
    ∀ h, h ∈ (w.run i.master (updateSemiSync cfg i)).slaveEnabled → h ∈ (w.run i.master (updateSemiSync cfg i)).published := by
  obtain ⟨ss, hms, -, -⟩ := hw.msOf
  rw [run_updateSemiSync_ok cfg i w hok ss hms]
  intro h hh
  -- reduce the projections first: unifying through `setPublished` would unfold `World.run`
  dsimp only [setPublished] at hh ⊢
  rcases mem_slaveEnabled_run hh with hon | ⟨h0, hoff⟩
  · -- only the loop over `becomeActive` switches acknowledgements on
    exact hsub h (List.contains_iff_mem.mp (body_calls cfg i _ hon))
  · -- it acknowledged before and was not switched off, so it is not in `becomeInactive`
    obtain ⟨s, ss', hg, hs1, hs2⟩ := (hw.1 h).mp h0
    apply Classical.byContradiction
    intro hna
    have hbi : h ∈ i.changes.becomeInactive := by
      rw [hchg, mem_filterOut]
      refine ⟨?_, hna⟩
      simp only [List.mem_map, List.mem_filter]
      exact ⟨(h, s), ⟨get?_mem _ _ _ hg, by simp [hs1, hs2]⟩, rfl⟩
    have h2 : ⟨.ssDisable h, true⟩ ∈ seg2 i :=
      List.mem_flatMap.mpr ⟨h, hbi, by rw [disableThen, hok, if_neg Bool.false_ne_true]; exact List.mem_cons_self⟩
    exact hoff (by simp [body, h2])

theorem effWait_congr {w w' : World} (h1 : w'.masterEnabled = w.masterEnabled) (h2 : w'.waitCount = w.waitCount) :
    effWait w' = effWait w := by
  simp [effWait, h1, h2]

theorem effWait_setPublished (w : World) (l : List String) : effWait (setPublished w l) = effWait w := rfl

theorem beforeAfter_cases (cfg : Cfg) (i : UpdIn) :
    (wscOf cfg i = oldWscOf i ∧ beforeAfter cfg i = (false, false)) ∨
    beforeAfter cfg i = (true, false) ∨ beforeAfter cfg i = (false, true) := by
  unfold beforeAfter
  rcases Int.lt_trichotomy (wscOf cfg i) (oldWscOf i) with h | h | h
  · have h' : ¬ wscOf cfg i > oldWscOf i := by omega
    cases cfg.masterFirst <;> simp [h, h']
  · left
    cases cfg.masterFirst <;> simp [h]
  · have h' : ¬ wscOf cfg i < oldWscOf i := by omega
    cases cfg.masterFirst <;> simp [h, h']

/-- What the master waits for after a complete fault-free iteration: the count of the list WITHOUT the data-lagging
replicas, while the list WITH them is published (`C04.witness_B_data_lag`).  The change set must not tell the master
itself to leave semi-sync (`counterexample_B_master_becomeInactive`). -/
theorem effWait_complete_iteration (cfg : Cfg) (i : UpdIn) (w : World)
    (hw : WorldMatches i w) (hok : ∀ c, i.fails c = false)
    (hmi : i.master ∉ i.changes.becomeInactive) (hml : i.master ∉ i.changes.dataLag) :
    effWait (w.run i.master (updateSemiSync cfg i)) = req cfg (filterOut i.active i.changes.dataLag) := by
  obtain ⟨ss, hms, hme, hwc⟩ := hw.msOf
  rw [run_updateSemiSync_ok cfg i w hok ss hms]
  show effWait _ = wscOf cfg i
  have hloop : (loopOf cfg i).2.1 = wscOf cfg i := by unfold loopOf; rw [enableLoop_ok i hok]
  -- the middle segments leave the master's settings alone
  have hmid : ∀ w1 : World,
      ((((w1.run i.master (seg2 i)).run i.master (seg3 i)).run i.master (loopOf cfg i).1).masterEnabled = w1.masterEnabled) ∧
      ((((w1.run i.master (seg2 i)).run i.master (seg3 i)).run i.master (loopOf cfg i).1).waitCount = w1.waitCount) := by
    intro w1
    simp only [← run_append]
    exact Prod.mk.inj <| master_run (f := ⟨i.changes.becomeActive, false⟩) rfl w1 i.master _ <|
      ((seg2_calls i (.inr hmi)).append (seg3_calls i (.inr hml))).append
        (loopOf_calls cfg i (List.Subset.refl _))
  rw [effWait_setPublished]
  unfold body
  simp only [run_append]
  rcases beforeAfter_cases cfg i with ⟨heq, hba⟩ | hba | hba
  · -- nothing to adjust
    have e1 : (seg1 cfg i).1 = [] := by simp [seg1, hba]
    have e5 : seg5 cfg i = [] := by simp [seg5, hba]
    rw [e1, e5, run_nil, run_nil, effWait_congr (hmid w).1 (hmid w).2, heq]
    simp [effWait, oldWscOf, hms, hme, hwc]
  · -- adjusted before the replicas
    have e1 : (seg1 cfg i).1 = (adjustMaster i (some ss) (wscOf cfg i)).1 := by simp [seg1, hba, hms]
    have e5 : seg5 cfg i = [] := by simp [seg5, hba]
    rw [e5, run_nil, effWait_congr (hmid _).1 (hmid _).2, e1]
    exact effWait_run_adjustMaster i hok ss _ w hme hwc
  · -- adjusted after the replicas
    have e1 : (seg1 cfg i).1 = [] := by simp [seg1, hba]
    have e5 : seg5 cfg i = (adjustMaster i (some ss) (wscOf cfg i)).1 := by simp [seg5, hba, hms, hloop]
    rw [e1, run_nil, e5]
    exact effWait_run_adjustMaster i hok ss _ _ ((hmid w).1.trans hme) ((hmid w).2.trans hwc)

/-- (b) after a complete fault-free iteration without data-lagging replicas (C04 gets `hmi` from `hchg` and
`i.master ∈ i.active`) -/
theorem complete_iteration_restores_B (cfg : Cfg) (i : UpdIn) (w : World)
    (hw : WorldMatches i w) (hok : ∀ c, i.fails c = false) (hlag : i.changes.dataLag = [])
    (hmi : i.master ∉ i.changes.becomeInactive) :
    effWait (w.run i.master (updateSemiSync cfg i)) = req cfg (w.run i.master (updateSemiSync cfg i)).published := by
  obtain ⟨ss, hms, -, -⟩ := hw.msOf
  rw [effWait_complete_iteration cfg i w hw hok hmi (hlag ▸ List.not_mem_nil), hlag, filterOut_nil,
    run_updateSemiSync_ok cfg i w hok ss hms]
  rfl

/-- without `hchg` the C04 statement of (b) is FALSE: if the change set tells the iteration to switch the master's own
semi-sync off, the master stops waiting while the published list still requires one acknowledgement (the other
hypotheses of the C04 statement hold) -/
theorem counterexample_B_master_becomeInactive :
    let m : NodeState := { pingOk := true, isMaster := true, masterExecuted := some "", semiSync := some ⟨true, false, 1⟩ }
    let a : NodeState := { pingOk := true, slave := some { state := .running, masterHost := "m" }, semiSync := some ⟨false, true, 1⟩ }
    let i : UpdIn := { cs := [("m", m), ("a", a)], master := "m", oldActive := ["m", "a"], active := ["a", "m"],
                       changes := ⟨[], ["m"], []⟩, ahead := fun _ => false, fails := fun _ => false }
    let w0 : World := ⟨["a"], true, 1, ["m", "a"]⟩
    let cfg : Cfg := ⟨true, 1, 30, 1000, false⟩
    WorldMatches i w0 ∧ (∀ c, i.fails c = false) ∧ i.changes.dataLag = [] ∧ 0 ≤ cfg.waitCount ∧ i.master ∈ i.active ∧
      invB cfg w0 = true ∧ invB cfg (w0.run i.master (updateSemiSync cfg i)) = false := by
  intro m a i w0 cfg
  refine ⟨⟨?_, ?_, rfl⟩, fun _ => rfl, rfl, by decide, by decide, by decide +kernel, by decide +kernel⟩
  · intro h
    by_cases hm : "m" = h
    · subst hm; simp [i, m, w0, ClusterState.get?]
    · by_cases ha : "a" = h
      · subst ha; simp [i, a, w0, ClusterState.get?]
      · have : ¬ h = "a" := fun e => ha e.symm
        simp [i, w0, ClusterState.get?, hm, ha, this]
  · exact ⟨m, ⟨true, false, 1⟩, rfl, rfl, rfl, rfl⟩

end ActiveNodesLemmas
