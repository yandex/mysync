/- Lemmas for C17 (MysyncProofs/C17.lean): the zone filter, the pass with its pending counter, `slavePass` in three
parts (bring online / lag / rate-limited broken replicas) and, from these, where each of its acts comes from
(`mem_slavePass`). -/
import MysyncModel.App.Offline

namespace OfflineLemmas
open NS Offline

theorem azCounts_fst_nonneg (sep az : String) (cs : ClusterState) : 0 ≤ (azCounts sep az cs).1 :=
  List.foldlRecOn (motive := fun acc : Int × Int => 0 ≤ acc.1) cs _ (Int.le_refl 0) fun acc h e _ => by
    split
    · exact h
    · exact Int.add_nonneg h (by decide)

theorem lagOffline_true (cfg : Cfg) (h : String) (st : NodeState) (mro : Bool) (cs : ClusterState) (p : Int)
    (hyp : lagOffline cfg h st mro cs p = true) :
    st.isOffline = false ∧ mro = false ∧
    (∃ sl lag, st.slave = some sl ∧ sl.lag = some lag ∧ lag > cfg.enableLag) ∧
    canSetOffline cfg h cs p = true := by
  revert hyp
  fun_cases lagOffline cfg h st mro cs p
  case case4 sl hs lag hl _ =>
    simp only [Bool.and_eq_true, Bool.not_eq_true', decide_eq_true_eq]
    exact fun ⟨⟨⟨h1, h2⟩, h3⟩, h4⟩ => ⟨h1, h2, ⟨sl, lag, hs, hl, h3⟩, h4⟩
  all_goals exact nofun

def sameAZ (cfg : Cfg) (h : String) (l : List String) : Int :=
  ((l.filter fun t => getAZ t cfg.azSeparator == getAZ h cfg.azSeparator).length : Int)

theorem sameAZ_reverse (cfg : Cfg) (h : String) (l : List String) :
    sameAZ cfg h l.reverse = sameAZ cfg h l := by
  unfold sameAZ
  rw [List.filter_reverse, List.length_reverse]

/-- invariant of `lagPass`: the result extends the (reversed) accumulator, and every host appended
was allowed by the filter given the same-zone hosts in front of it -/
theorem lagPass_inv (cfg : Cfg) (master : String) (cs : ClusterState)
    (l : List (String × NodeState)) (taken : List String) :
    ∃ suf, lagPass cfg master cs l taken = taken.reverse ++ suf ∧
      ∀ j h, suf[j]? = some h →
        h ≠ master ∧ ∃ st, (h, st) ∈ l ∧
          canSetOffline cfg h cs (sameAZ cfg h (taken.reverse ++ suf.take j)) = true := by
  fun_induction lagPass cfg master cs l taken
  case case1 => exact ⟨[], by simp, by simp⟩
  case case2 ih | case4 ih =>
    -- the rows that pass the host over
    obtain ⟨suf, h1, h2⟩ := ih
    exact ⟨suf, h1, fun j h' hj => (h2 j h' hj).imp_right (Exists.imp fun _ => And.imp_left (List.mem_cons_of_mem _))⟩
  case case3 h st rest taken hskip _ _ _ hlag ih =>
    -- the host is taken: it is the first of the suffix, and `pending` is `sameAZ cfg h taken`
    obtain ⟨suf, h1, h2⟩ := ih
    refine ⟨h :: suf, by rw [h1, List.reverse_cons, List.append_assoc]; rfl, fun j h' hj => ?_⟩
    cases j with
    | zero =>
      obtain rfl : h = h' := by simpa using hj
      refine ⟨fun heq => hskip (by simp [heq]), st, List.mem_cons_self, ?_⟩
      simp only [List.take_zero, List.append_nil, sameAZ_reverse]
      exact (lagOffline_true _ _ _ _ _ _ hlag).2.2.2
    | succ j =>
      obtain ⟨a, st', b, c⟩ := h2 j h' hj
      refine ⟨a, st', List.mem_cons_of_mem _ b, ?_⟩
      simpa only [List.reverse_cons, List.append_assoc, List.take_succ_cons, List.singleton_append] using c

def lagPart (cfg : Cfg) (host : String) (st : NodeState) (mro : Bool) (cs : ClusterState)
    (i : SlaveIn) (lag : Int) : List Act × Bool :=
  if !st.isOffline && !mro && lag > cfg.enableLag then
    if canSetOffline cfg host cs i.pendingInAZ then
      if i.setOfflineOk then ([Act.setOffline, Act.optEnable], true) else ([Act.setOffline], false)
    else ([Act.skipCap], false)
  else ([], false)

def brokenPart (cfg : Cfg) (st : NodeState) (i : SlaveIn) (a : List Act × Bool) : List Act × Bool :=
  if !st.permBroken then a
  else match i.lastShutdownAge with
    | none => (a.1 ++ [.readLastShutdown], a.2)
    | some age =>
      if !st.isOffline && age > cfg.enableInterval then
        (a.1 ++ [.readLastShutdown, .updateLastShutdown, .setOffline], a.2)
      else (a.1 ++ [.readLastShutdown], a.2)

def onlinePart (st : NodeState) (i : SlaveIn) : List Act × Bool :=
  if st.permBroken then ([], false)
  else match i.resetup with
    | .statusErr => ([.readResetup], false)
    | .startupErr => ([.readResetup, .readStartup], false)
    | .ok status before =>
      if status || before then ([.readResetup, .readStartup], false)
      else ([.readResetup, .readStartup, .setDefaultReplSettings, .setOnline], false)

theorem slavePass_cases (cfg : Cfg) (host : String) (st : NodeState) (mro : Bool) (cs : ClusterState)
    (i : SlaveIn) :
    slavePass cfg host st mro cs i = ([], false) ∨
    ∃ sl lag, st.slave = some sl ∧ sl.lag = some lag ∧
      slavePass cfg host st mro cs i =
        if st.isOffline && lag ≤ cfg.disableLag then onlinePart st i
        else brokenPart cfg st i (lagPart cfg host st mro cs i lag) := by
  unfold slavePass
  cases st.slave with
  | none => exact Or.inl rfl
  | some sl =>
    dsimp only
    cases hl : sl.lag with
    | none => exact Or.inl rfl
    | some lag => exact Or.inr ⟨sl, lag, rfl, hl, rfl⟩

theorem lagPart_acts (cfg : Cfg) (host : String) (st : NodeState) (mro : Bool) (cs : ClusterState)
    (i : SlaveIn) (lag : Int) :
    ∀ a ∈ (lagPart cfg host st mro cs i lag).1,
      (a = .setOffline ∧ lag > cfg.enableLag) ∨ a = .optEnable ∨ a = .skipCap := by
  fun_cases lagPart cfg host st mro cs i lag
  -- rows in the order of the definition: the two that set the host offline, the cap, nothing
  case case1 hc _ _ | case2 hc _ _ =>
    simp only [Bool.and_eq_true, decide_eq_true_eq] at hc
    simp [hc.2]
  case case3 => simp
  case case4 => exact nofun

theorem onlinePart_acts (st : NodeState) (i : SlaveIn) :
    ∀ a ∈ (onlinePart st i).1, a = .readResetup ∨ a = .readStartup ∨ a = .setDefaultReplSettings ∨
      (a = .setOnline ∧ st.permBroken = false ∧ i.resetup = .ok false false) := by
  fun_cases onlinePart st i
  -- the last row is the one that brings the host online
  case case5 hb _ _ hr hsb =>
    simp only [Bool.or_eq_true, not_or, Bool.not_eq_true] at hsb hb
    simp [hr, hsb, hb]
  all_goals simp

theorem brokenPart_mem (cfg : Cfg) (st : NodeState) (i : SlaveIn) (a : List Act × Bool) (x : Act)
    (h : x ∈ (brokenPart cfg st i a).1) :
    x ∈ a.1 ∨ (st.permBroken = true ∧ (x = .readLastShutdown ∨
      ((x = .updateLastShutdown ∨ x = .setOffline) ∧ st.isOffline = false ∧
        ∃ age, i.lastShutdownAge = some age ∧ age > cfg.enableInterval))) := by
  have hb : ¬ (!st.permBroken) = true → st.permBroken = true := by simp
  revert h
  fun_cases brokenPart cfg st i a
  -- rows: not broken; no recorded shutdown; shut down long enough ago (`case3`, the one that acts); too recently
  case case1 => exact Or.inl
  case case2 h _ | case4 h _ _ _ =>
    simp only [List.mem_append, List.mem_singleton]
    exact Or.imp_right fun hx => ⟨hb h, Or.inl hx⟩
  case case3 h age hage hc =>
    simp only [Bool.and_eq_true, Bool.not_eq_true', decide_eq_true_eq] at hc
    simp only [List.mem_append, List.mem_cons, List.not_mem_nil, or_false]
    exact Or.imp_right fun hx => ⟨hb h, hx.imp_right fun hx => ⟨hx, hc.1, age, hage, hc.2⟩⟩

/-- where an act of `slavePass` comes from, one disjunct per part.  For a given act `simp only [reduceCtorEq, …]` leaves
the rows that list it. -/
theorem mem_slavePass (cfg : Cfg) (host : String) (st : NodeState) (mro : Bool) (cs : ClusterState) (i : SlaveIn) :
    ∀ a ∈ (slavePass cfg host st mro cs i).1,
    ∃ sl lag, st.slave = some sl ∧ sl.lag = some lag ∧
      ((st.isOffline = true ∧ lag ≤ cfg.disableLag ∧
          (a = .readResetup ∨ a = .readStartup ∨ a = .setDefaultReplSettings ∨
            (a = .setOnline ∧ st.permBroken = false ∧ i.resetup = .ok false false))) ∨
       ((a = .setOffline ∧ lag > cfg.enableLag) ∨ a = .optEnable ∨ a = .skipCap) ∨
       (st.permBroken = true ∧ (a = .readLastShutdown ∨
          ((a = .updateLastShutdown ∨ a = .setOffline) ∧ st.isOffline = false ∧
            ∃ age, i.lastShutdownAge = some age ∧ age > cfg.enableInterval)))) := by
  intro a h
  rcases slavePass_cases cfg host st mro cs i with h0 | ⟨sl, lag, hs, hl, heq⟩
  · rw [h0] at h; cases h
  · refine ⟨sl, lag, hs, hl, ?_⟩
    rw [heq] at h
    split at h
    · next hc =>
      simp only [Bool.and_eq_true, decide_eq_true_eq] at hc
      exact Or.inl ⟨hc.1, hc.2, onlinePart_acts st i a h⟩
    · exact Or.inr ((brokenPart_mem _ _ _ _ _ h).imp_left (lagPart_acts _ _ _ _ _ _ _ _))

theorem brokenStep_true (cfg : Cfg) (last now l : Int) (h : brokenStep cfg last now = (true, l)) :
    now - last > cfg.enableInterval ∧ l = now := by
  unfold brokenStep at h
  split at h
  · next hc =>
    injection h with _ h2
    exact ⟨hc, h2.symm⟩
  · injection h with h1 _
    cases h1

end OfflineLemmas
