/-
Lemmas about the switchover procedure for C01 / C07 / C11 / C19 / C20, read off the stage list (SwitchoverStages.lean)
through three facts: `run_split` (a step that the first stages cannot emit is taken only after all of them succeeded),
`stages_phase` (each segment emits only steps of its own `phase`), `lastOnly_ends` (the steps after which nothing is
done).  At the end: the sites at which the procedure can die (namespace `RobustLemmas`, for C20).
-/
import MysyncModel.App.Switchover
import MysyncProofs.Lemmas.GtidLemmas
import MysyncProofs.Lemmas.SelectLemmas
import MysyncProofs.Lemmas.SwitchoverStages
import MysyncProofs.Lemmas.ListFacts

namespace SwitchoverLemmas
open NS Gtid Select Switchover

def goods (a : List Stage) : List Step := a.flatMap (·.good)

@[simp] theorem goods_nil : goods [] = [] := rfl
@[simp] theorem goods_cons (s : Stage) (r : List Stage) : goods (s :: r) = s.good ++ goods r := by
  simp [goods]
theorem goods_append (a b : List Stage) : goods (a ++ b) = goods a ++ goods b := by
  simp [goods]

theorem mem_run_cons {s : Step} {stg : Stage} {r : List Stage} :
    s ∈ run (stg :: r) ↔ (stg.ok = true ∧ (s ∈ stg.good ∨ s ∈ run r)) ∨ (stg.ok = false ∧ s ∈ stg.bad) := by
  rw [run_cons]
  cases stg.ok <;> simp

theorem run_append_ok {a b : List Stage} (h : ∀ stg ∈ a, stg.ok = true) : run (a ++ b) = goods a ++ run b := by
  induction a with
  | nil => simp
  | cons s r ih =>
    simp only [List.cons_append, run_cons, h s (by simp), if_true, goods_cons, List.append_assoc]
    rw [ih (fun stg hm => h stg (by simp [hm]))]

theorem run_ok {a : List Stage} (h : ∀ stg ∈ a, stg.ok = true) : run a = goods a := by
  simpa using run_append_ok (b := []) h

theorem mem_run_append {x : Step} {a b : List Stage} :
    x ∈ run (a ++ b) ↔ x ∈ run a ∨ ((∀ stg ∈ a, stg.ok = true) ∧ x ∈ run b) := by
  rw [run_append, ← List.all_eq_true]
  by_cases hall : a.all (·.ok) = true <;> simp [hall]

def Emits (st : List Stage) (P : Step → Prop) : Prop := ∀ stg ∈ st, (∀ s ∈ stg.good, P s) ∧ ∀ s ∈ stg.bad, P s

theorem emits_nil {P : Step → Prop} : Emits [] P ↔ True := by simp [Emits]

/-- (with the fields written out: on a concrete stage list this is half the work of `List.forall_mem_cons` followed by
the projections) -/
theorem emits_cons {ok : Bool} {good bad : List Step} {r : List Stage} {P : Step → Prop} :
    Emits (⟨ok, good, bad⟩ :: r) P ↔ (∀ s ∈ good, P s) ∧ (∀ s ∈ bad, P s) ∧ Emits r P := by
  simp [Emits, and_assoc]

theorem Emits.append {a b : List Stage} {P : Step → Prop} (ha : Emits a P) (hb : Emits b P) : Emits (a ++ b) P :=
  fun stg hm => (List.mem_append.mp hm).elim (ha stg) (hb stg)

theorem Emits.mono {a : List Stage} {P Q : Step → Prop} (ha : Emits a P) (h : ∀ s, P s → Q s) : Emits a Q :=
  fun stg hm => ⟨fun s hs => h s ((ha stg hm).1 s hs), fun s hs => h s ((ha stg hm).2 s hs)⟩

theorem Emits.run {st : List Stage} {P : Step → Prop} (h : Emits st P) : ∀ s ∈ run st, P s := by
  induction st with
  | nil => simp
  | cons t r ih =>
    intro s hs
    have ht := h t (by simp)
    rcases mem_run_cons.mp hs with ⟨_, h1 | h1⟩ | ⟨_, h1⟩
    · exact ht.1 s h1
    · exact ih (fun stg hm => h stg (by simp [hm])) s h1
    · exact ht.2 s h1

theorem run_split {P : Step → Prop} {x : Step} {a b : List Stage} {pre post : List Step} (ha : Emits a P) (hx : ¬ P x)
    (h : run (a ++ b) = pre ++ x :: post) :
    (∀ stg ∈ a, stg.ok = true) ∧ ∃ f, pre = goods a ++ f ∧ run b = f ++ x :: post := by
  have hok := ((mem_run_append.mp (by rw [h]; simp)).resolve_left fun hm => hx (ha.run x hm)).1
  rw [run_append_ok hok] at h
  exact ⟨hok, List.append_eq_split (fun hm => hx (ha.run x (run_ok hok ▸ hm))) h⟩

/-- stage-wise condition for "steps satisfying `P` occur at most as the very last step" -/
def LastOnly (P : Step → Prop) : List Stage → Prop
  | [] => True
  | [stg] => (∀ s ∈ stg.bad.dropLast, ¬ P s) ∧ (∀ s ∈ stg.good.dropLast, ¬ P s)
  | stg :: r => (∀ s ∈ stg.bad.dropLast, ¬ P s) ∧ (∀ s ∈ stg.good, ¬ P s) ∧ LastOnly P r

theorem dropLast_append_of_ne {α : Type _} (a b : List α) (h : b ≠ []) : (a ++ b).dropLast = a ++ b.dropLast :=
  List.dropLast_append_of_ne_nil h

theorem run_lastOnly (P : Step → Prop) (st : List Stage) (h : LastOnly P st) : ∀ s ∈ (run st).dropLast, ¬ P s := by
  fun_induction LastOnly P st with
  | case1 => simp
  | case2 stg =>
    rw [run_cons, run_nil, List.append_nil]
    cases stg.ok
    · exact h.1
    · exact h.2
  | case3 stg r _ ih =>
    rw [run_cons]
    cases stg.ok
    · exact h.1
    · show ∀ s ∈ (stg.good ++ run r).dropLast, ¬ P s
      intro s hs
      by_cases hne : run r = []
      · rw [hne, List.append_nil] at hs
        exact h.2.1 s (List.dropLast_subset _ hs)
      · rw [List.dropLast_append_of_ne_nil hne] at hs
        exact (List.mem_append.mp hs).elim (h.2.1 s) (ih h.2.2 s)

theorem last_of_lastOnly {P : Step → Prop} {l : List Step} (h : ∀ s ∈ l.dropLast, ¬ P s) {x : Step} (hx : x ∈ l) (hp : P x) :
    l.getLast? = some x := by
  have hne : l ≠ [] := List.ne_nil_of_mem hx
  rw [← List.dropLast_concat_getLast hne] at hx
  rcases List.mem_append.mp hx with h1 | h1
  · exact absurd hp (h x h1)
  · rw [List.getLast?_eq_some_getLast hne, List.mem_singleton.mp h1]

theorem prefix_of_lastOnly {P : Step → Prop} {l pre post : List Step} (h : ∀ s ∈ l.dropLast, ¬ P s)
    (hl : l = pre ++ post) (hpost : post ≠ []) : ∀ s ∈ pre, ¬ P s := by
  intro s hs
  apply h s
  rw [hl, List.dropLast_append_of_ne_nil hpost]
  exact List.mem_append_left _ hs

/-- steps after which nothing is done: the record of the new master, a lost lock, every failure and death -/
def ends : Step → Bool
  | .setMasterKey .. | .lockCheck _ false | .fail _ | .panic _ | .writeEmerge => true
  | _ => false

theorem lastOnly_ends (cfg : Cfg) (i : In) : LastOnly (ends · = true) (stages cfg i) := by
  have h1 : (∀ s ∈ (rejectBad i.rejectOk).dropLast, ¬ ends s = true) ↔ True :=
    iff_true_intro (by cases i.rejectOk <;> decide)
  have h2 : ∀ x, (mrBad x).dropLast = [] := fun x => by cases x <;> rfl
  simp only [LastOnly, stages, sPre, sMid, sStop, sStopIO, sReject, sChoose, sOpt, sFreeze, sOnly, sNode, sPick, pStages, pHead,
    pFin, pReset, pWritable, pEvents, List.cons_append, List.nil_append, h2, List.dropLast_singleton,
    List.dropLast_nil, List.dropLast_cons_cons, List.forall_mem_cons, List.forall_mem_ite_nil, List.forall_mem_append,
    List.forall_mem_map, List.not_mem_nil, false_imp_iff, implies_true, and_true, true_and, h1]
  simp [ends]

theorem ends_last {cfg : Cfg} {i : In} {x : Step} (hx : ends x = true) (hs : x ∈ performSwitchover cfg i) :
    (performSwitchover cfg i).getLast? = some x := by
  rw [performSwitchover_eq] at hs ⊢
  exact last_of_lastOnly (run_lastOnly _ _ (lastOnly_ends cfg i)) hs hx

theorem ends_not_in_prefix {cfg : Cfg} {i : In} {pre post : List Step} (hpost : post ≠ [])
    (hsplit : performSwitchover cfg i = pre ++ post) : ∀ s ∈ pre, ends s = false := by
  rw [performSwitchover_eq] at hsplit
  intro s hs
  simpa using prefix_of_lastOnly (run_lastOnly _ _ (lastOnly_ends cfg i)) hsplit hpost s hs

/-- the segment of the stage list that takes a step: 0 `sOpt`, 1 `sFreeze`, 2 `sMid`, 3 `pHead`, 4 `pFin`; `5` = the three
steps that several segments take.  (Not the phase numbers of the model's comments: its phases 2–3 are `sMid`, 4–5 `pHead`,
6 `pFin`.) -/
def phase : Step → Nat
  | .stopOptimization _ | .turboPhase _ => 0
  | .freezeRO .. => 1
  | .rejectInside | .stopIO .. | .quorumCheck .. | .positions _ | .writeEmerge => 2
  | .chosen .. | .setOnline .. | .changeMaster .. | .catchUp _ | .restate _ | .setRecovery .. | .stopSlave .. => 3
  | .resetSlaveAll .. | .updateActiveNodes | .setWritable .. | .reenableEvents _ | .setMasterKey .. => 4
  | .lockCheck .. | .fail _ | .panic _ => 5

def InPhase (k : Nat) (s : Step) : Prop := phase s = k ∨ phase s = 5

/-- the segments up to the choice of the new master emit only steps of their own `phase` … -/
theorem stages_phase (cfg : Cfg) (i : In) :
    Emits (sOpt i) (InPhase 0) ∧ Emits [sFreeze i] (InPhase 1) ∧ Emits (sMid cfg i) (InPhase 2) := by
  have h1 : ∀ ok, (∀ s ∈ rejectBad ok, InPhase 2 s) ↔ True := fun ok => iff_true_intro fun s h => by
    rcases mem_rejectBad.mp h with rfl | ⟨-, rfl⟩
    · exact Or.inl rfl
    · exact Or.inr rfl
  have h2 : ∀ m, (∀ s ∈ mrBad m, InPhase 2 s) ↔ True := fun m => iff_true_intro fun s h => by
    rcases mem_mrBad.mp h with ⟨-, rfl⟩ | ⟨-, rfl⟩
    · exact Or.inr rfl
    · exact Or.inl rfl
  -- in two steps: `phase` is evaluated only once the steps are constructors (on the variable step of `Emits` it is far
  -- more work for `simp`)
  simp only [emits_cons, emits_nil, sOpt, sFreeze, sMid, sStop, sStopIO, sReject, sChoose, sOnly, sNode, sPick,
    List.cons_append, List.nil_append, List.forall_mem_cons, List.forall_mem_ite_nil, List.forall_mem_append,
    List.forall_mem_map, List.not_mem_nil, false_imp_iff, implies_true, and_true, true_and, h1, h2]
  simp [InPhase, phase]

/-- … and so do the two segments of the promotion -/
theorem pStages_phase (i : In) (nm mr : Pos) : Emits (pHead i nm mr) (InPhase 3) ∧ Emits (pFin i nm) (InPhase 4) := by
  simp only [emits_cons, emits_nil, pHead, pFin, pReset, pWritable, pEvents, List.forall_mem_cons, List.forall_mem_ite_nil,
    List.forall_mem_map, List.not_mem_nil, false_imp_iff, implies_true, and_true, true_and]
  simp [InPhase, phase]

theorem Emits.phase_ne {a : List Stage} {k : Nat} (h : Emits a (InPhase k)) (j : Nat) (hk : k ≠ j := by decide)
    (h5 : 5 ≠ j := by decide) : Emits a (phase · ≠ j) :=
  h.mono fun _ hs => hs.elim (· ▸ hk) (· ▸ h5)

theorem stages_eq (cfg : Cfg) (i : In) :
    stages cfg i = sOpt i ++ sFreeze i :: (sMid cfg i ++ (pHead i (nmOf cfg i) (mrOf i) ++ pFin i (nmOf cfg i))) := by
  simp [stages, pStages, sPre]

theorem emits_after_opt {cfg : Cfg} {i : In} {nm mr : Pos} :
    Emits (sFreeze i :: (sMid cfg i ++ (pHead i nm mr ++ pFin i nm))) (phase · ≠ 0) := by
  obtain ⟨-, h1, h2⟩ := stages_phase cfg i
  obtain ⟨h3, h4⟩ := pStages_phase i nm mr
  exact Emits.append (a := [_]) (h1.phase_ne 0) ((h2.phase_ne 0).append ((h3.phase_ne 0).append (h4.phase_ne 0)))

/-- for `j` = 3, 4: `sPre` takes no step of the promotion part -/
theorem emits_pre {cfg : Cfg} {i : In} (j : Nat) (hj : 2 < j := by decide) (h5 : 5 ≠ j := by decide) :
    Emits (sPre cfg i) (phase · ≠ j) := by
  obtain ⟨h0, h1, h2⟩ := stages_phase cfg i
  exact (h0.phase_ne j (by omega) h5).append
    (Emits.append (a := [_]) (h1.phase_ne j (by omega) h5) (h2.phase_ne j (by omega) h5))

theorem mid_iff {cfg : Cfg} {i : In} {x : Step} (hx : phase x = 2) :
    x ∈ performSwitchover cfg i ↔ (∀ stg ∈ sOpt i ++ [sFreeze i], stg.ok = true) ∧ x ∈ run (sMid cfg i) := by
  obtain ⟨h0, h1, -⟩ := stages_phase cfg i
  obtain ⟨h3, h4⟩ := pStages_phase i (nmOf cfg i) (mrOf i)
  have hst : stages cfg i = (sOpt i ++ [sFreeze i]) ++ (sMid cfg i ++ pStages i (nmOf cfg i) (mrOf i)) := by
    simp [stages, sPre]
  rw [performSwitchover_eq, hst, mem_run_append,
    or_iff_right fun hm => ((h0.phase_ne 2).append (h1.phase_ne 2)).run x hm hx, mem_run_append,
    or_iff_left fun hm => ((h3.phase_ne 2).append (h4.phase_ne 2)).run x hm.2 hx]

theorem stages_split (cfg : Cfg) (i : In) :
    stages cfg i = (sPre cfg i ++ pHead i (nmOf cfg i) (mrOf i)) ++ pFin i (nmOf cfg i) :=
  (List.append_assoc ..).symm

/-- all guards before the final phase hold; `Guards` names those the property theorems ask for, any other is read off
by giving its stage: `h ⟨guard, good, bad⟩ (by simp [pHead])` -/
def Reached (cfg : Cfg) (i : In) : Prop := ∀ stg ∈ sPre cfg i ++ pHead i (nmOf cfg i) (mrOf i), stg.ok = true

theorem fin_split {cfg : Cfg} {i : In} {x : Step} {pre post : List Step} (hx : phase x = 4)
    (h : performSwitchover cfg i = pre ++ x :: post) :
    Reached cfg i ∧ ∃ f, pre = goods (sPre cfg i) ++ goods (pHead i (nmOf cfg i) (mrOf i)) ++ f ∧
      run (pFin i (nmOf cfg i)) = f ++ x :: post := by
  rw [performSwitchover_eq, stages_split] at h
  have := run_split ((emits_pre 4).append ((pStages_phase i _ _).1.phase_ne 4)) (fun hn => hn hx) h
  rwa [goods_append] at this

theorem fin_reach {cfg : Cfg} {i : In} {x : Step} (hx : phase x = 4) (hs : x ∈ performSwitchover cfg i) :
    Reached cfg i ∧ x ∈ run (pFin i (nmOf cfg i)) := by
  obtain ⟨pre, post, h⟩ := List.append_of_mem hs
  obtain ⟨hr, f, _, hf⟩ := fin_split hx h
  exact ⟨hr, by rw [hf]; simp⟩

theorem reached_eq {cfg : Cfg} {i : In} (h : Reached cfg i) :
    performSwitchover cfg i =
      goods (sPre cfg i) ++ goods (pHead i (nmOf cfg i) (mrOf i)) ++ run (pFin i (nmOf cfg i)) := by
  rw [performSwitchover_eq, stages_split, run_append_ok h, goods_append]

/-- the guards of `Reached`, by name -/
structure Guards (cfg : Cfg) (i : In) : Prop where
  target : i.sw.to = "" ∨ i.sw.to ∈ i.active
  noDubious : dubiousHAHosts i.cs = []
  quorum : qOk cfg i = true
  lock1 : i.lock1 = true
  posSome : i.positions.isSome = true
  posLen : (psOf i).length = (frozen i).length
  node : isNode (findMostRecent (psOf i)) = true
  pick : (¬ i.sw.to = "" ∨ i.sw.from_ = "") ∨
    isDNode (mostDesirable cfg.priorityChoiceMaxLag (filterOutHost (psOf i) i.sw.from_)) = true
  catchUp : i.catchUp = .caught ∨ i.catchUp = .asyncEscape
  lock2 : i.lock2 = true
  recovery : needRecovery i (mrOf i) = false ∨ i.setRecoveryOk = true

theorem Reached.guards {cfg : Cfg} {i : In} (h : Reached cfg i) : Guards cfg i := by
  -- the 28 guards of `sPre ++ pHead` as they are written in the stage list; eleven of them are the fields
  simp only [Reached, sPre, sMid, sStop, sChoose, sOpt, pHead, List.cons_append, List.nil_append,
    List.forall_mem_cons, Bool.and_eq_true] at h
  obtain ⟨h1, h2, -, -, -, -, -, -, -, h9, h10, ⟨h11, h12⟩, -, h13, h14, -, -, -, -, h19, h20, -, -, -, -, -, h26, -⟩ := h
  exact ⟨by simpa using h1, by simpa using h2, h9, h10, h11, by simpa using h12, h13, by simpa [sPick] using h14,
    by simpa using h19, h20, by simpa using h26⟩

/-- the collected positions and their maximum -/
theorem Guards.positions {cfg : Cfg} {i : In} (g : Guards cfg i) :
    ∃ ps mr, i.positions = some ps ∧ psOf i = ps ∧ ps.length = (frozen i).length ∧
      findMostRecent ps = .node mr ∧ mrOf i = mr := by
  obtain ⟨ps, hps⟩ := Option.isSome_iff_exists.mp g.posSome
  have hp : psOf i = ps := by simp [psOf, hps]
  have hn := g.node
  have hl := g.posLen
  rw [hp] at hn hl
  cases hm : findMostRecent ps with
  | node mr => exact ⟨ps, mr, hps, hp, hl, hm, by simp [mrOf, hp, hm]⟩
  | panic => rw [hm] at hn; cases hn
  | splitBrain => rw [hm] at hn; cases hn

/-- the right-hand side is `C11.Unconfirmed i mr.gtid` -/
theorem needRecovery_iff (i : In) (mr : Pos) :
    needRecovery i mr = true ↔ i.oldStatus = .err ∨ i.oldStatus = .notReplica ∨
      ∃ st ex, i.oldStatus = .replica st ex ∧ (st = .error ∨ isSlaveAhead (parseD ex) mr.gtid = true) := by
  unfold needRecovery
  cases i.oldStatus <;> simp [isSlavePermanentlyLost, and_assoc]

theorem nmOf_host_to (cfg : Cfg) (i : In) (hto : i.sw.to ≠ "") : (nmOf cfg i).host = i.sw.to := by
  simp only [nmOf, bne_iff_ne, ne_eq, hto, not_false_eq_true, if_true]
  cases hf : (psOf i).find? (fun x => x.host == i.sw.to) with
  | none => rfl
  | some p => simpa using List.find?_some hf

theorem nmOf_cases (cfg : Cfg) (i : In) (hn : isNode (findMostRecent (psOf i)) = true)
    (hpick : (¬ i.sw.to = "" ∨ i.sw.from_ = "") ∨
      isDNode (mostDesirable cfg.priorityChoiceMaxLag (filterOutHost (psOf i) i.sw.from_)) = true)
    {ps : List Pos} (hps : psOf i = ps) :
    (i.sw.to ≠ "" ∧ (nmOf cfg i).host = i.sw.to) ∨
    (i.sw.to = "" ∧ nmOf cfg i ∈ ps ∧ (i.sw.from_ = "" ∨ (nmOf cfg i).host ≠ i.sw.from_)) := by
  subst hps
  by_cases hto : i.sw.to = ""
  · refine Or.inr ⟨hto, ?_⟩
    by_cases hfrom : i.sw.from_ = ""
    · have : nmOf cfg i = mrOf i := by simp [nmOf, hto, hfrom]
      rw [this, mrOf]
      cases hm : findMostRecent (psOf i) with
      | node mr => exact ⟨SelectLemmas.findMostRecent_mem hm, Or.inl hfrom⟩
      | _ => rw [hm] at hn; cases hn
    · have hd := (hpick.resolve_left (fun h => h.elim (· hto) hfrom))
      cases hmd : mostDesirable cfg.priorityChoiceMaxLag (filterOutHost (psOf i) i.sw.from_) with
      | node nm =>
        have : nmOf cfg i = nm := by simp [nmOf, hto, hfrom, hmd]
        obtain ⟨h1, h2⟩ := List.mem_filter.1 (SelectLemmas.mDF_node _ _ _ _ hmd).1
        rw [this]
        exact ⟨h1, Or.inr (by simpa using h2)⟩
      | _ => rw [hmd] at hd; cases hd
  · exact Or.inl ⟨hto, nmOf_host_to cfg i hto⟩

theorem writable_reach {cfg : Cfg} {i : In} {h : String} {ok : Bool}
    (hs : Step.setWritable h ok ∈ performSwitchover cfg i) :
    Reached cfg i ∧ i.resetOk = true ∧ h = (nmOf cfg i).host ∧ ok = i.writableOk := by
  obtain ⟨hr, hm⟩ := fin_reach rfl hs
  simp [pFin, pReset, pWritable, pEvents, mem_run_cons] at hm
  obtain ⟨h1, h2⟩ := hm
  refine ⟨hr, h1, ?_⟩
  rcases h2 with ⟨h2, h3, h4⟩ | ⟨h2, h3, h4⟩ <;> exact ⟨h3, by rw [h2, h4]⟩

theorem workList_subset (i : In) : ∀ h ∈ workList i, h ∈ i.active := by
  intro h hw
  unfold workList at hw
  split at hw
  · exact (List.mem_filter.mp hw).1
  · exact hw

/-- the semantic core of C01 -/
theorem promotion_safe (cfg : Cfg) (i : In) (h : String) (ok : Bool)
    (hs : Step.setWritable h ok ∈ performSwitchover cfg i)
    (total : String → GtidSet) (execNew : GtidSet)
    (hpos : ∀ ps, i.positions = some ps → (∀ p ∈ ps, WF p.gtid ∧ p.gtid = total p.host) ∧ ∀ f ∈ frozen i, ∃ p ∈ ps, p.host = f)
    (hcaught : i.catchUp = .caught → ∀ ps mr, i.positions = some ps → findMostRecent ps = .node mr → GtidLemmas.GSubset mr.gtid execNew)
    (hc : i.catchUp = .caught) :
    ∀ f ∈ frozen i, GtidLemmas.GSubset (total f) execNew := by
  obtain ⟨ps, mr, h1, _, _, h3, _⟩ := (writable_reach hs).1.guards.positions
  obtain ⟨hwf, hcov⟩ := hpos ps h1
  have hne : ps ≠ [] := by
    intro he; rw [he] at h3; cases h3
  have hspec := SelectLemmas.mostRecent_spec ps hne (fun p hp => (hwf p hp).1)
  rw [h3] at hspec
  intro f hf
  obtain ⟨p, hp, hpf⟩ := hcov f hf
  have := hspec.2 p hp
  rw [(hwf p hp).2, hpf] at this
  exact GtidLemmas.GSubset.trans this (hcaught hc ps mr h1 h3)

/-! ### the run of a procedure that gets to the final phase, written out -/

def segA (cfg : Cfg) (i : In) : List Step :=
  [.stopOptimization true] ++ (if i.turbo then [.turboPhase true] else []) ++
    (if i.turbo then [.stopOptimization true] else []) ++
    ((workList i).map fun h => Step.freezeRO h (roOk i h)) ++
    ((workList i).filter (· != i.oldMaster)).map (fun h => Step.stopIO h ((pingOk i.cs h == some true) && i.io h)) ++
    [.quorumCheck (frozen i).length (qOk cfg i)]

def segB (_i : In) (nm mr : Pos) : List Step :=
  [.positions true, .chosen nm.host mr.host] ++ (if nm.host != mr.host then [.setOnline mr.host true] else []) ++
    (if nm.host != mr.host then [.changeMaster nm.host mr.host true] else [])

def segD (i : In) (nm mr : Pos) : List Step :=
  [.restate true, .setOnline nm.host true] ++ ((targets i nm).map fun h => Step.changeMaster h nm.host (i.repoint h)) ++
    (if needRecovery i mr then [.setRecovery i.oldMaster true] else []) ++ [.stopSlave nm.host true]

theorem goods_early (cfg : Cfg) (i : In) (nm mr : Pos) :
    goods (sPre cfg i) ++ goods (pHead i nm mr) =
      segA cfg i ++ Step.lockCheck 1 true :: segB i nm mr ++ Step.catchUp i.catchUp :: [] ++ Step.lockCheck 2 true :: segD i nm mr := by
  simp [sPre, sMid, sStop, sStopIO, sReject, sChoose, sOpt, sFreeze, sOnly, sNode, sPick, pHead, segA, segB, segD]

/-- a run whose quorum check fails: the freeze phases and nothing else -/
theorem quorum_fail_eq {cfg : Cfg} {i : In} (hA : ∀ stg ∈ sOpt i ++ [sFreeze i, sReject i, sStopIO cfg i], stg.ok = true)
    (hq : qOk cfg i = false) : performSwitchover cfg i = segA cfg i := by
  have hst : stages cfg i = (sOpt i ++ [sFreeze i, sReject i, sStopIO cfg i]) ++
      ({ ok := qOk cfg i, good := [] } :: ((sStop cfg i).drop 3 ++ (sChoose cfg i ++ pStages i (nmOf cfg i) (mrOf i)))) := by
    simp [stages, sPre, sMid, sStop]
  rw [performSwitchover_eq, hst, run_append_ok hA, run_cons]
  simp [hq, sOpt, sFreeze, sReject, sStopIO, segA]

theorem splitbrain_phase {cfg : Cfg} {i : In} {ps : List Pos} (hpos : i.positions = some ps)
    (hsb : findMostRecent ps = .splitBrain) : ∀ s ∈ performSwitchover cfg i, phase s ≠ 3 ∧ phase s ≠ 4 := by
  intro s hs
  rw [performSwitchover_eq, stages, mem_run_append] at hs
  -- `sNode`, a stage of `sPre`, fails
  have hs : s ∈ run (sPre cfg i) := hs.resolve_right fun h => by
    simpa [sNode, psOf, hpos, hsb, isNode] using h.1 (sNode i) (by simp [sPre, sMid, sChoose])
  exact ⟨(emits_pre 3).run s hs, (emits_pre 4).run s hs⟩

theorem emerge_iff {cfg : Cfg} {i : In} :
    Step.writeEmerge ∈ performSwitchover cfg i ↔
      Step.positions true ∈ performSwitchover cfg i ∧ (sOnly i).ok = true ∧ findMostRecent (psOf i) = .splitBrain := by
  -- both steps are of phase 2.  `positions true` is the last thing `sStop` does, so every guard up to there holds; the
  -- marker is written by `sNode`, the stage after `sOnly`, when it fails
  rw [mid_iff rfl, mid_iff rfl]
  simp only [sMid, sStop, sStopIO, sReject, sChoose, sOnly, sNode, sPick, List.cons_append, List.nil_append, mem_run_cons,
    run_nil, List.mem_cons, List.mem_append, List.mem_map, List.not_mem_nil, reduceCtorEq, false_or, or_false, and_false,
    mem_rejectBad, mem_mrBad, exists_false, Step.positions.injEq, and_true]
  rw [and_iff_right_of_imp (a := isNode _ = false) (· ▸ rfl)]
  simp only [and_assoc]

theorem splitbrain_emerge_last (cfg : Cfg) (i : In) (ps : List Pos)
    (hpos : i.positions = some ps) (hsb : findMostRecent ps = .splitBrain)
    (hreach : Step.positions true ∈ performSwitchover cfg i)
    (hne : ¬ (ps.length = 1 ∧ ps.head?.map (·.host) = some i.sw.from_)) :
    (performSwitchover cfg i).getLast? = some .writeEmerge := by
  have hps : psOf i = ps := by simp [psOf, hpos]
  refine ends_last rfl (emerge_iff.mpr ⟨hreach, ?_, by rw [hps, hsb]⟩)
  simpa [sOnly, hps, Decidable.imp_iff_not_or] using hne

/-- counterexample to `C01.splitbrain_aborts` as first stated (without `hwf`): one frozen host `b`, which is also the host to switch
from, with an ill-formed position (the empty interval `[5,3)`) -/
def cxIn : In :=
  { cs := [("a", { pingOk := false }), ("b", { pingOk := true, slave := some { state := .running, masterHost := "a" } })],
    active := ["b"], sw := { from_ := "b" }, oldMaster := "a", ro := fun _ => true, io := fun _ => true,
    positions := some [⟨"b", [(⟨"00000000-0000-0000-0000-000000000001", ""⟩, [⟨5, 3⟩])], 0, 0⟩],
    cs2 := [], repoint := fun _ => true }
def cxCfg : Cfg := ⟨false, 1, false, 0, 60⟩

theorem splitbrain_aborts_counterexample :
    ∃ ps, cxIn.positions = some ps ∧ findMostRecent ps = .splitBrain ∧
      Step.positions true ∈ performSwitchover cxCfg cxIn ∧
      (performSwitchover cxCfg cxIn).getLast? = some (.fail "no suitable nodes to switch from") := by
  refine ⟨_, rfl, ?_, by decide +kernel, by decide +kernel⟩
  rfl

end SwitchoverLemmas

namespace RobustLemmas
open NS Gtid Select Switchover SwitchoverLemmas

theorem findMostRecent_panic {ps : List Pos} (h : findMostRecent ps = .panic) : ps = [] := by
  cases ps with
  | nil => rfl
  | cons p r =>
    rw [SelectLemmas.findMostRecent_cons] at h
    split at h <;> cases h

/-- every site at which `performSwitchover` can die, with the exact condition that reaches it, and only after the
first view was found complete: every listed host and the recorded master have an entry in it.  (This is
stronger than `C20.switchover_panics_only_if`: the host missing from the second view is named, and no site
depends on the FIRST view any more — since fix fc0b66f a listed host or a recorded master that is not a
registered host ends the procedure with `fail "host is not among cluster hosts"` before anything is touched; the branch
`panic "clusterState[oldMaster]"` is still in the text of the model but is never taken.) -/
theorem switchover_panic_sites (cfg : Cfg) (i : In) (site : String)
    (h : Step.panic site ∈ performSwitchover cfg i) :
    (∀ x, (x ∈ workList i ∨ x = i.oldMaster) → pingOk i.cs x ≠ none) ∧
    ((site = "positions[0]" ∧ i.positions = some []) ∨
    (site = "clusterState[newMaster]" ∧ ∃ ps, i.positions = some ps ∧
      ((nmOf cfg i).host = i.sw.to ∨ nmOf cfg i ∈ ps) ∧ pingOk i.cs2 (nmOf cfg i).host = none) ∨
    (site = "clusterState[host]" ∧ ∃ x, x ∈ workList i ∧ pingOk i.cs2 x = none)) := by
  -- the four stages that take a `panic` step, each under the guards of the stages before it, as the stage list has them
  rw [performSwitchover_eq] at h
  simp only [stages, sPre, sMid, sStop, sStopIO, sReject, sChoose, sOpt, sFreeze, sOnly, sNode, sPick, pStages, pHead, pFin,
    pReset, pWritable, pEvents, List.cons_append, List.nil_append, mem_run_cons, run_nil, List.mem_cons, List.mem_append,
    List.mem_map, List.not_mem_nil, reduceCtorEq, false_or, or_false, and_false, mem_rejectBad, mem_mrBad,
    Step.panic.injEq, exists_false, List.mem_ite_nil_right] at h
  obtain ⟨-, -, hreg, -, -, -, -, -, h⟩ := h
  obtain ⟨hwl, hom⟩ : (∀ x ∈ workList i, pingOk i.cs x ≠ none) ∧ (pingOk i.cs i.oldMaster).isSome = true := by
    simpa using hreg
  refine ⟨fun x hx => hx.elim (hwl x) (· ▸ fun hn => by rw [hn] at hom; cases hom), ?_⟩
  rcases h with ⟨-, -, -, hpos, -, h⟩ | ⟨ho, -⟩
  · obtain ⟨ps, hps⟩ := Option.isSome_iff_exists.mp (Bool.and_eq_true_iff.mp hpos).1
    have hpsOf : psOf i = ps := by simp [psOf, hps]
    rcases h with ⟨hn, hpick, -, -, -, -, -, -, ⟨-, -, -, hx, rfl⟩ | ⟨hnm, rfl⟩⟩ | ⟨-, hp, rfl⟩
    · exact Or.inr (Or.inr ⟨rfl, by simpa using hx⟩)
    · exact Or.inr (Or.inl ⟨rfl, ps, hps, (nmOf_cases cfg i hn (by simpa [sPick] using hpick) hpsOf).imp (·.2) (·.2.1),
        by simpa using hnm⟩)
    · rw [hpsOf] at hp
      exact Or.inl ⟨rfl, by rw [hps, findMostRecent_panic hp]⟩
  · -- the `clusterState[oldMaster]` stage: the registration check has established its guard
    rw [hom] at ho
    cases ho

/-- in particular the site `clusterState[oldMaster]` is dead code -/
theorem oldMaster_stage_unreachable (cfg : Cfg) (i : In) :
    Step.panic "clusterState[oldMaster]" ∉ performSwitchover cfg i := by
  intro h
  rcases (switchover_panic_sites cfg i _ h).2 with ⟨hs, _⟩ | ⟨hs, _⟩ | ⟨hs, _⟩ <;> simp at hs

end RobustLemmas
