/-
Kernel-checked counterexamples to two property statements as first written: `C07.request_kept_until_terminal` without
`hfresh` (on `SwitchLifecycle.tick`), and `C09.leave_keeps_mode_otherwise` without `i.updateHostsOk = true` in the
conjunct about several masters (two masters, and the refresh of the host list failed).
-/
import MysyncModel.App.SwitchLifecycle
import MysyncModel.App.Maintenance

namespace SwitchoverLemmas
open NS Manager SwitchLifecycle

/-- counterexample to `C07.request_kept_until_terminal` as first stated (without `hfresh`): the pending request equals the record in
`last_rejected_switch`; the iteration times it out — `switch` is removed, both result keys are unchanged -/
def cxMCfg : Manager.Cfg :=
  { failover := true, failoverDelay := 0, failoverCooldown := 0, resetupCrashedHosts := false, semiSync := false,
    waitCount := 0, switchoverTimeout := 0, switchoverMaxAttempts := 0 }
def cxSw : Switch := { to := "b", initiatedAt := some 0 }
def cxKeys : Keys := { switch := some cxSw, lastRejected := some cxSw }
def cxMIn : Manager.In := { master := some "a", activeNodes := [], cs := [], dcs := [], now := 10, failedAt := none }

theorem request_kept_counterexample :
    cxKeys.switch = some cxSw ∧
    ((tick cxMCfg cxMIn cxKeys).lastOk = cxKeys.lastOk ∧ (tick cxMCfg cxMIn cxKeys).lastRejected = cxKeys.lastRejected) ∧
    cxMIn.perform ≠ .abortedMeanwhile ∧ (tick cxMCfg cxMIn cxKeys).switch = none := by
  decide +kernel

end SwitchoverLemmas

namespace ManagerLemmas
open NS Manager Maintenance

private def mstX : NodeState := { pingOk := true, isMaster := true }
private def leaveX : LeaveIn := { updateHostsOk := false, cs := [("a", mstX), ("b", mstX)] }
example : (mastersOf leaveX.cs).length ≠ 1 ∧ (mastersOf leaveX.cs).length ≥ 2 ∧
    (leaveMaintenance leaveX).1 ≠ [Act.writeEmerge] := by decide +kernel

end ManagerLemmas
