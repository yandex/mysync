/- Lemmas for C15, part 1: `buildFullPath` at character level.  A string is read as words (non-empty, free of
separators) between separators: `sep_induction` is that reading, the equations of `segs`, `collapse` and
`stripTrailing` on a word followed by a separator are stated once, and every other proof goes by `sep_induction`.
`norm_eq` is the key for an arbitrary namespace. -/
import MysyncModel.Dcs.Zk

namespace ZkLemmas
open Zk

def NoSep (w : List Char) : Prop := ∀ c ∈ w, c ≠ sep

theorem NoSep.tail {a : Char} {w : List Char} (h : NoSep (a :: w)) : a ≠ sep ∧ NoSep w := List.forall_mem_cons.1 h

theorem sep_induction {P : List Char → Prop} (nil : P []) (hsep : ∀ l, P l → P (sep :: l))
    (word : ∀ w, w ≠ [] → NoSep w → P w)
    (wsep : ∀ w l, w ≠ [] → NoSep w → P l → P (w ++ sep :: l)) (l : List Char) : P l := by
  suffices h : P l ∧ ∀ w, w ≠ [] → NoSep w → P (w ++ l) from h.1
  induction l with
  | nil => exact ⟨nil, fun w hne hw => by rw [List.append_nil]; exact word w hne hw⟩
  | cons a l ih =>
    by_cases ha : a = sep
    · subst ha
      exact ⟨hsep l ih.1, fun w hne hw => wsep w l hne hw ih.1⟩
    · have h1 : NoSep [a] := List.forall_mem_singleton.2 ha
      refine ⟨ih.2 [a] (by simp) h1, fun w hne hw => ?_⟩
      have := ih.2 (w ++ [a]) (by simp) (List.forall_mem_append.2 ⟨hw, h1⟩)
      rwa [List.append_assoc] at this

theorem collapse_cons_ne (c : Char) (l : List Char) (hc : c ≠ sep) : collapse (c :: l) = c :: collapse l := by
  cases l with
  | nil => simp [collapse]
  | cons b rest => simp [collapse, hc]

theorem collapse_sep_sep (l : List Char) : collapse (sep :: sep :: l) = collapse (sep :: l) := by
  simp [collapse]

theorem collapse_sep_ne (a : Char) (l : List Char) (ha : a ≠ sep) :
    collapse (sep :: a :: l) = sep :: collapse (a :: l) := by
  simp [collapse, ha]

theorem collapse_word (w l : List Char) (hw : NoSep w) : collapse (w ++ l) = w ++ collapse l := by
  induction w with
  | nil => rfl
  | cons a w ih => rw [List.cons_append, collapse_cons_ne _ _ hw.tail.1, ih hw.tail.2, List.cons_append]

theorem collapse_sep_word (w l : List Char) (hne : w ≠ []) (hw : NoSep w) :
    collapse (sep :: (w ++ l)) = sep :: w ++ collapse l := by
  cases w with
  | nil => exact absurd rfl hne
  | cons a w =>
    rw [List.cons_append, collapse_sep_ne _ _ hw.tail.1, ← List.cons_append, collapse_word _ _ hw]
    rfl

theorem collapse_sep_ne_nil (l : List Char) : collapse (sep :: l) ≠ [] := by
  induction l with
  | nil => simp [collapse]
  | cons b rest ih =>
    by_cases hb : b = sep
    · subst hb; rw [collapse_sep_sep]; exact ih
    · rw [collapse_sep_ne b rest hb]; exact List.cons_ne_nil _ _

theorem stripTrailing_cons (a : Char) (x : List Char) (hx : x ≠ []) : stripTrailing (a :: x) = a :: stripTrailing x := by
  cases x with
  | nil => exact absurd rfl hx
  | cons b y =>
    simp only [stripTrailing, List.getLast?_cons_cons]
    cases h : (b :: y).getLast? with
    | none => simp
    | some c =>
      by_cases hc : c = sep
      · simp [hc, List.dropLast]
      · simp [hc]

theorem stripTrailing_append (w x : List Char) (hx : x ≠ []) : stripTrailing (w ++ x) = w ++ stripTrailing x := by
  induction w with
  | nil => rfl
  | cons a w ih =>
    have : w ++ x ≠ [] := by simp [hx]
    simp [stripTrailing_cons _ _ this, ih]

theorem stripTrailing_word (w : List Char) (hw : NoSep w) : stripTrailing w = w := by
  unfold stripTrailing
  cases h : w.getLast? with
  | none => rfl
  | some c => simp [hw c (List.mem_of_getLast? h)]

theorem segsAux_word (w l cur : List Char) (hw : NoSep w) : segsAux (w ++ l) cur = segsAux l (w.reverse ++ cur) := by
  induction w generalizing cur with
  | nil => rfl
  | cons a w ih => simp [segsAux, hw.tail.1, ih _ hw.tail.2]

theorem segs_sep_cons (l : List Char) : segs (sep :: l) = segs l := by
  simp [segs, segsAux]

theorem segs_word (w : List Char) (hne : w ≠ []) (hw : NoSep w) : segs w = [w] := by
  have := segsAux_word w [] [] hw
  simp only [List.append_nil] at this
  simp [segs, this, segsAux, hne]

theorem segs_word_sep (w l : List Char) (hne : w ≠ []) (hw : NoSep w) : segs (w ++ sep :: l) = w :: segs l := by
  simp [segs, segsAux_word w _ [] hw, segsAux, hne]

theorem segs_append_sep (a b : List Char) : segs (a ++ sep :: b) = segs a ++ segs b := by
  induction a using sep_induction with
  | nil => exact segs_sep_cons b
  | hsep l ih => rw [List.cons_append, segs_sep_cons, segs_sep_cons, ih]
  | word w hne hw => rw [segs_word_sep w b hne hw, segs_word w hne hw]; rfl
  | wsep w l hne hw ih =>
    rw [List.append_assoc, List.cons_append, segs_word_sep _ _ hne hw, segs_word_sep _ _ hne hw, ih]; rfl

theorem segs_good (l : List Char) : ∀ sg ∈ segs l, sg ≠ [] ∧ NoSep sg := by
  induction l using sep_induction with
  | nil => intro sg h; cases h
  | hsep l ih => rw [segs_sep_cons]; exact ih
  | word w hne hw => rw [segs_word w hne hw]; intro sg h; rw [List.mem_singleton.1 h]; exact ⟨hne, hw⟩
  | wsep w l hne hw ih =>
    rw [segs_word_sep w l hne hw]
    intro sg h
    rcases List.mem_cons.1 h with h | h
    · rw [h]; exact ⟨hne, hw⟩
    · exact ih sg h

theorem segs_spell (ss : List (List Char)) (hss : ∀ sg ∈ ss, sg ≠ [] ∧ NoSep sg) : segs (spell ss) = ss := by
  induction ss with
  | nil => rfl
  | cons sg ss ih =>
    obtain ⟨hne, hw⟩ := hss sg (by simp)
    have ih := ih fun t ht => hss t (by simp [ht])
    rw [spell, List.cons_append, segs_sep_cons]
    cases ss with
    | nil => rw [spell, List.append_nil, segs_word sg hne hw]
    | cons t ts =>
      rw [spell, List.cons_append] at ih ⊢
      rw [segs_word_sep sg _ hne hw, ← segs_sep_cons, ih]

def norm (l : List Char) : List Char := stripTrailing (collapse l)

theorem norm_sep (l : List Char) : norm (sep :: l) = spell (segs l) := by
  induction l using sep_induction with
  | nil => decide
  | hsep l ih => rw [segs_sep_cons, ← ih, norm, collapse_sep_sep]; rfl
  | word w hne hw =>
    have := collapse_sep_word w [] hne hw
    rw [List.append_nil] at this
    rw [norm, this, collapse, List.append_nil, stripTrailing_cons _ _ hne, stripTrailing_word w hw, segs_word w hne hw]
    simp [spell]
  | wsep w l hne hw ih =>
    rw [norm, collapse_sep_word w _ hne hw, stripTrailing_append _ _ (collapse_sep_ne_nil l), segs_word_sep w l hne hw,
      spell, ← ih]
    rfl

theorem norm_ne (a : Char) (l : List Char) (ha : a ≠ sep) : sep :: norm (a :: l) = spell (segs (a :: l)) := by
  rw [← norm_sep, norm, norm, collapse_sep_ne a l ha]
  exact (stripTrailing_cons _ _ (by rw [collapse_cons_ne _ _ ha]; simp)).symm

theorem segs_norm (l : List Char) : segs (norm l) = segs l := by
  cases l with
  | nil => rfl
  | cons a l =>
    by_cases ha : a = sep
    · subst ha; rw [norm_sep, segs_spell _ (segs_good l), segs_sep_cons]
    · rw [← segs_sep_cons (norm (a :: l)), norm_ne a l ha, segs_spell _ (segs_good _)]

theorem norm_eq (l : List Char) :
    norm l = if l.head? = some sep then spell (segs l) else (spell (segs l)).tail := by
  cases l with
  | nil => rfl
  | cons a l =>
    by_cases ha : a = sep
    · subst ha; rw [List.head?_cons, if_pos rfl, norm_sep, segs_sep_cons]
    · rw [List.head?_cons, if_neg (fun h => ha (Option.some.inj h)), ← norm_ne a l ha]; rfl

theorem buildFullPathChars_eq (ns p : List Char) : buildFullPathChars ns p = norm (ns ++ sep :: p) := by
  simp [buildFullPathChars, norm]

end ZkLemmas
