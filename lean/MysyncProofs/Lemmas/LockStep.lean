/- The transitions of the lock system that change the state.  `step_fires` opens the nested guards of
`LockSys.step` once, `settle_cases` those of `LockSys.settle`; every proof by cases on `Step` cases on `Fires` instead. -/
import MysyncModel.Dcs.LockSys

namespace LockLemmas
open Zk LockSys

/-- One constructor per row of `LockSys.step` that does not return `σ`, carrying the guards that row passed and
the state it leads to. -/
inductive Fires (σ : Sys) : Step → Sys → Prop
  | tick (d : Nat) : Fires σ (.tick d) { σ with now := σ.now + d }
  | cached {i : Nat} {c : Client} (hi : σ.clients[i]? = some c) (hp : c.prog = none)
      (hf : cacheFresh c.cache σ.now σ.ttl = true) :
      Fires σ (.beginAcquire i) { σ with told := (i, true) :: σ.told }
  | acquire {i : Nat} {c : Client} (hi : σ.clients[i]? = some c) (hp : c.prog = none) :
      Fires σ (.beginAcquire i) { σ with
        clients := setClient σ.clients i { c with cache := none, prog := some (opAcquire σ.lock c.id), acquiring := true } }
  | release {i : Nat} {c : Client} (hi : σ.clients[i]? = some c) (hp : c.prog = none) :
      Fires σ (.beginRelease i) { σ with
        clients := setClient σ.clients i { c with cache := none, prog := some (opRelease σ.lock c.id σ.attempts), acquiring := false } }
  | prim {i : Nat} {c : Client} {p : Prim} {k : Resp → Prog Res} (hi : σ.clients[i]? = some c)
      (hp : c.prog = some (.call p k)) (hl : c.sid ∈ σ.srv.live) :
      Fires σ (.prim i) (settle { σ with srv := (σ.srv.step c.sid p).1 } i c (k (σ.srv.step c.sid p).2))
  | primLost {i : Nat} {c : Client} {p : Prim} {k : Resp → Prog Res} (hi : σ.clients[i]? = some c)
      (hp : c.prog = some (.call p k)) (hl : c.sid ∈ σ.srv.live) :
      Fires σ (.primLost i) (settle { σ with srv := (σ.srv.step c.sid p).1 } i c (k (.err .connClosed)))
  | primLostRetry {i : Nat} {c : Client} {p : Prim} {k : Resp → Prog Res} (hi : σ.clients[i]? = some c)
      (hp : c.prog = some (.call p k)) (hl : c.sid ∈ σ.srv.live) (ha : c.acquiring = true) :
      Fires σ (.primLostRetry i) { σ with srv := (σ.srv.step c.sid p).1 }
  | fail {i : Nat} {c : Client} {p : Prim} {k : Resp → Prog Res} (e : Err) (hi : σ.clients[i]? = some c)
      (hp : c.prog = some (.call p k)) : Fires σ (.fail i e) (settle σ i c (k (.err e)))
  | event {i : Nat} {c : Client} (hi : σ.clients[i]? = some c) :
      Fires σ (.event i) { σ with clients := setClient σ.clients i { c with cache := none } }
  | expire {i : Nat} {c : Client} (hi : σ.clients[i]? = some c) (hc : c.cache = none) (hp : c.prog = none) :
      Fires σ (.expire i) { σ with srv := σ.srv.expire c.sid }
  | expireAcq {i : Nat} {c : Client} (hi : σ.clients[i]? = some c) (hc : c.cache = none)
      (hp : c.prog = none ∨ c.acquiring = true) : Fires σ (.expireAcq i) { σ with srv := σ.srv.expire c.sid }
  | expireAny {i : Nat} {c : Client} (hi : σ.clients[i]? = some c) :
      Fires σ (.expireAny i) { σ with srv := σ.srv.expire c.sid }
  | reconnect {i : Nat} {c : Client} (hi : σ.clients[i]? = some c) (hd : c.sid ∉ σ.srv.live) :
      Fires σ (.reconnect i) { σ with srv := σ.srv.openSession σ.nextSid, nextSid := σ.nextSid + 1,
                                      clients := setClient σ.clients i { c with sid := σ.nextSid } }

theorem step_fires (σ : Sys) (st : Step) : step σ st = σ ∨ Fires σ st (step σ st) := by
  fun_cases step σ st
  -- the rows that return `σ`
  any_goals exact Or.inl rfl
  all_goals right
  · exact .tick _
  · next hi hp hf => exact .cached hi (by simpa using hp) hf
  · next hi hp _ => exact .acquire hi (by simpa using hp)
  · next hi hp => exact .release hi (by simpa using hp)
  · next hi _ _ hp hl _ _ hs => simpa only [hs] using Fires.prim hi hp (List.contains_iff_mem.1 hl)
  · next hi _ _ hp hl _ _ hs => simpa only [hs] using Fires.primLost hi hp (List.contains_iff_mem.1 hl)
  · next hi _ _ hp hl =>
    simp only [Bool.and_eq_true] at hl
    exact .primLostRetry hi hp (List.contains_iff_mem.1 hl.1) hl.2
  · next hi _ _ hp => exact .fail _ hi hp
  · next hi => exact .event hi
  · next hi hg =>
    simp only [Bool.and_eq_true, Option.isNone_iff_eq_none] at hg
    exact .expire hi hg.1 hg.2
  · next hi hg =>
    simp only [Bool.and_eq_true, Bool.or_eq_true, Option.isNone_iff_eq_none] at hg
    exact .expireAcq hi hg.1 hg.2
  · next hi => exact .expireAny hi
  · next hi hl => exact .reconnect hi (fun hm => hl (List.contains_iff_mem.2 hm))

theorem settle_cases (σ : Sys) (i : Nat) (c : Client) (p : Prog Res) :
    (p = .ret (.bool true) ∧ settle σ i c p =
      { σ with clients := setClient σ.clients i { c with prog := none, acquiring := false, cache := some σ.now },
               told := (i, false) :: σ.told }) ∨
    settle σ i c p = { σ with clients := setClient σ.clients i { c with prog := none, acquiring := false } } ∨
    (∃ q k, p = .call q k) ∧ settle σ i c p = { σ with clients := setClient σ.clients i { c with prog := some p } } := by
  cases p with
  | ret r =>
    by_cases h : (c.acquiring && r == .bool true) = true
    · have hr : r = .bool true := by simp at h; exact h.2
      exact Or.inl ⟨by rw [hr], if_pos h⟩
    · exact Or.inr (Or.inl (if_neg h))
  | call q k => exact Or.inr (Or.inr ⟨⟨q, k, rfl⟩, rfl⟩)

end LockLemmas
