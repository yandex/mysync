/-
`IntervalSlice.Normalize` (insertion sort by start, then the merge loop, reasoned about through `merge1`)
keeps exactly the numbers it was given and yields the normal form; `MysqlGTIDSet.Update`, read key by key
(`lookup_updStep`), is set union and keeps sets well-formed.
-/
import MysyncModel.Gtid
import MysyncProofs.Lemmas.IvLemmas
import MysyncProofs.Lemmas.GtidLemmas

namespace GtidLemmas
open Gtid

theorem mem_perm {l1 l2 : IvList} (h : l1.Perm l2) (x : Int) : IvList.Mem x l1 ↔ IvList.Mem x l2 :=
  exists_congr fun _ => and_congr_left fun _ => h.mem_iff

theorem insertSorted_perm (iv : Interval) (l : IvList) : (insertSorted iv l).Perm (iv :: l) := by
  fun_induction insertSorted iv l with
  | case1 | case2 => exact .refl _
  | case3 jv r _ ih => exact (ih.cons jv).trans (.swap iv jv r)

theorem sortIv_perm (l : IvList) : (sortIv l).Perm l := by
  induction l with
  | nil => exact .refl _
  | cons a r ih => exact (insertSorted_perm a (sortIv r)).trans (ih.cons a)

theorem insertSorted_sorted (iv : Interval) (l : IvList) (h : l.Pairwise (·.start ≤ ·.start)) :
    (insertSorted iv l).Pairwise (·.start ≤ ·.start) := by
  fun_induction insertSorted iv l with
  | case1 => exact List.pairwise_singleton _ _
  | case2 jv r hc =>
    have hij : iv.start ≤ jv.start := by
      simp only [Bool.or_eq_true, decide_eq_true_eq, Bool.and_eq_true, beq_iff_eq] at hc
      omega
    exact List.pairwise_cons.2 ⟨List.forall_mem_cons.2
      ⟨hij, fun b hb => Int.le_trans hij (List.rel_of_pairwise_cons h hb)⟩, h⟩
  | case3 jv r hc ih =>
    have hji : jv.start ≤ iv.start := by
      simp only [Bool.or_eq_true, decide_eq_true_eq, Bool.and_eq_true, beq_iff_eq, not_or, not_and] at hc
      omega
    obtain ⟨h1, h2⟩ := List.pairwise_cons.1 h
    refine List.pairwise_cons.2 ⟨fun b hb => ?_, ih h2⟩
    rcases List.mem_cons.1 ((insertSorted_perm iv r).mem_iff.1 hb) with rfl | hb
    · exact hji
    · exact h1 b hb

theorem sortIv_sorted (l : IvList) : (sortIv l).Pairwise (·.start ≤ ·.start) := by
  induction l with
  | nil => exact .nil
  | cons a r ih => exact insertSorted_sorted a (sortIv r) ih

/-- `mergeSorted` carries its result reversed in an accumulator; `merge1 cur l` is the same loop with the
interval being extended held apart and the finished ones emitted in order (`mergeSorted_cons`). -/
def merge1 (cur : Interval) : IvList → IvList
  | [] => [cur]
  | iv :: r =>
    if iv.start > cur.stop then cur :: merge1 iv r else merge1 ⟨cur.start, max cur.stop iv.stop⟩ r

theorem mergeSorted_cons (last : Interval) (acc l : IvList) :
    mergeSorted (last :: acc) l = acc.reverse ++ merge1 last l := by
  induction l generalizing last acc with
  | nil => rw [mergeSorted, merge1, List.reverse_cons]
  | cons iv r ih =>
    rw [mergeSorted, merge1]
    split
    · rw [ih, List.reverse_cons, List.append_assoc, List.singleton_append]
    · rw [ih]

theorem merge1_spec (cur : Interval) (l : IvList) (hs : (cur :: l).Pairwise (·.start ≤ ·.start)) :
    (∀ x, IvList.Mem x (merge1 cur l) ↔ IvList.Mem x (cur :: l)) ∧
    ((∀ j ∈ cur :: l, j.start < j.stop) →
      Normal (merge1 cur l) ∧ ∀ j ∈ merge1 cur l, cur.start ≤ j.start) := by
  fun_induction merge1 cur l with
  | case1 cur =>
    exact ⟨fun _ => Iff.rfl, fun h => ⟨h cur List.mem_cons_self, List.forall_mem_singleton.2 (Int.le_refl _)⟩⟩
  | case2 cur iv r hgap ih =>
    obtain ⟨hc, hs⟩ := List.pairwise_cons.1 hs
    obtain ⟨m, n⟩ := ih hs
    refine ⟨fun x => by rw [mem_cons, m, ← mem_cons], fun hne => ?_⟩
    obtain ⟨hcur, hne⟩ := List.forall_mem_cons.1 hne
    obtain ⟨n1, n2⟩ := n hne
    have := hc iv List.mem_cons_self
    refine ⟨normal_cons.2 ⟨hcur, fun j hj => ?_, n1⟩, List.forall_mem_cons.2 ⟨Int.le_refl _, fun j hj => ?_⟩⟩
    · have := n2 j hj; omega
    · have := n2 j hj; omega
  | case3 cur iv r hgap ih =>
    obtain ⟨hc, hs⟩ := List.pairwise_cons.1 hs
    obtain ⟨hci, hc⟩ := List.forall_mem_cons.1 hc
    obtain ⟨m, n⟩ := ih (List.pairwise_cons.2 ⟨hc, (List.pairwise_cons.1 hs).2⟩)
    refine ⟨fun x => ?_, fun hne => n ?_⟩
    · -- `[cur.start, max ..)` is the union of the two overlapping or touching intervals
      rw [m, mem_cons, mem_cons, mem_cons, ← or_assoc]
      exact or_congr_left (by simp only; omega)
    · obtain ⟨hcur, -, hne⟩ : _ ∧ _ ∧ _ := by simpa only [List.forall_mem_cons] using hne
      exact List.forall_mem_cons.2 ⟨by simp only; omega, hne⟩

theorem mergeSorted_spec (s : IvList) (hs : s.Pairwise (·.start ≤ ·.start)) :
    (∀ x, IvList.Mem x (mergeSorted [] s) ↔ IvList.Mem x s) ∧
    ((∀ j ∈ s, j.start < j.stop) → Normal (mergeSorted [] s)) := by
  cases s with
  | nil => exact ⟨fun _ => Iff.rfl, fun _ => trivial⟩
  | cons iv r =>
    rw [mergeSorted, mergeSorted_cons]
    exact ⟨(merge1_spec iv r hs).1, fun h => ((merge1_spec iv r hs).2 h).1⟩

theorem mem_normalize (x : Int) (l : IvList) : IvList.Mem x (normalize l) ↔ IvList.Mem x l :=
  ((mergeSorted_spec _ (sortIv_sorted l)).1 x).trans (mem_perm (sortIv_perm l) x)

theorem normal_normalize (l : IvList) (h : ∀ j ∈ l, j.start < j.stop) : Normal (normalize l) :=
  (mergeSorted_spec _ (sortIv_sorted l)).2 fun j hj => h j ((sortIv_perm l).mem_iff.1 hj)

def updStep (acc : GtidSet) (e : Key × IvList) : GtidSet :=
  match lookup acc e.1 with
  | none => acc ++ [(e.1, e.2)]
  | some _ => acc.map fun (k', l) => if k' = e.1 then (k', normalize (l ++ e.2)) else (k', l)

theorem update_eq_foldl (s o : GtidSet) : update s o = o.foldl updStep s := by
  unfold update
  congr 1

theorem updStep_of_none {acc : GtidSet} {e : Key × IvList} (h : lookup acc e.1 = none) :
    updStep acc e = acc ++ [e] := by
  rw [updStep, h]

def mapVals (f : Key → IvList → IvList) (s : GtidSet) : GtidSet := s.map fun e => (e.1, f e.1 e.2)

theorem updStep_of_some {acc : GtidSet} {e : Key × IvList} {l0 : IvList} (h : lookup acc e.1 = some l0) :
    updStep acc e = mapVals (fun k l => if k = e.1 then normalize (l ++ e.2) else l) acc := by
  rw [updStep, h]
  exact List.map_congr_left fun ⟨k', l⟩ _ => by dsimp only; split <;> rfl

theorem lookup_mapVals (f : Key → IvList → IvList) (s : GtidSet) (k : Key) :
    lookup (mapVals f s) k = (lookup s k).map (f k) := by
  fun_induction lookup s k with
  | case1 => rfl
  | case2 l r => exact if_pos rfl
  | case3 k' l r hne ih => exact (if_neg hne).trans ih

theorem keys_mapVals (f : Key → IvList → IvList) (s : GtidSet) : keys (mapVals f s) = keys s :=
  List.map_map.trans rfl

theorem lookup_append (a b : GtidSet) (k : Key) :
    lookup (a ++ b) k = (lookup a k).or (lookup b k) := by
  fun_induction lookup a k with
  | case1 => rfl
  | case2 l r => exact if_pos rfl
  | case3 k' l r hne ih => exact (if_neg hne).trans ih

def joined (acc : GtidSet) (e : Key × IvList) : IvList :=
  match lookup acc e.1 with
  | none => e.2
  | some l => normalize (l ++ e.2)

theorem lookup_updStep (acc : GtidSet) (e : Key × IvList) (k : Key) :
    lookup (updStep acc e) k = if k = e.1 then some (joined acc e) else lookup acc k := by
  unfold joined
  cases h : lookup acc e.1 with
  | none =>
    rw [updStep_of_none h, lookup_append]
    by_cases hk : k = e.1
    · rw [if_pos hk, hk, h]; exact if_pos rfl
    · rw [if_neg hk, lookup_cons, if_neg (Ne.symm hk)]; cases lookup acc k <;> rfl
  | some l0 =>
    rw [updStep_of_some h, lookup_mapVals]
    by_cases hk : k = e.1
    · rw [if_pos hk, hk, h]; exact congrArg some (if_pos rfl)
    · rw [if_neg hk]; cases lookup acc k <;> simp [hk]

theorem joined_spec (acc : GtidSet) (e : Key × IvList) (x : Int) :
    IvList.Mem x (joined acc e) ↔ acc.Mem e.1 x ∨ IvList.Mem x e.2 := by
  unfold joined
  split
  · rename_i h; exact (or_iff_right (not_mem_of_lookup_none h x)).symm
  · rename_i l h; rw [mem_normalize, mem_append, mem_iff_of_lookup h]

theorem mem_updStep (acc : GtidSet) (e : Key × IvList) (k : Key) (x : Int) :
    (updStep acc e).Mem k x ↔ (acc.Mem k x ∨ (k = e.1 ∧ IvList.Mem x e.2)) := by
  by_cases hk : k = e.1
  · rw [mem_iff_of_lookup ((lookup_updStep acc e k).trans (if_pos hk)), joined_spec, hk]
    exact or_congr_right (iff_and_self.2 fun _ => rfl)
  · have : lookup (updStep acc e) k = lookup acc k := (lookup_updStep acc e k).trans (if_neg hk)
    simp only [GtidSet.Mem, this, hk, false_and, or_false]

theorem mem_update (s o : GtidSet) (k : Key) (x : Int) :
    (update s o).Mem k x ↔ (s.Mem k x ∨ ∃ l, (k, l) ∈ o ∧ IvList.Mem x l) := by
  rw [update_eq_foldl]
  induction o generalizing s with
  | nil => simp
  | cons e r ih =>
    -- the induction hypothesis for the tail, then what the head entry adds; what is left is logic over `∨` and `∃`
    rw [List.foldl_cons, ih, mem_updStep]
    obtain ⟨ke, le⟩ := e
    simp only [List.mem_cons, Prod.mk.injEq, or_and_right, exists_or, and_assoc, exists_and_left, exists_eq_left,
      or_assoc]

theorem update_upper_bound (s o : GtidSet) : GSubset s (update s o) ∧ GSubset o (update s o) :=
  ⟨fun k x h => (mem_update s o k x).2 (Or.inl h),
   fun k x ⟨l, hl, hx⟩ => (mem_update s o k x).2 (Or.inr ⟨l, mem_of_lookup hl, hx⟩)⟩

theorem normalize_append_ok (l0 ol : IvList) (h0 : Normal l0) (h1 : Normal ol) (hne : ol ≠ []) :
    Normal (normalize (l0 ++ ol)) ∧ normalize (l0 ++ ol) ≠ [] := by
  refine ⟨normal_normalize _ (List.forall_mem_append.2 ⟨h0.nonempty, h1.nonempty⟩), fun hnil => ?_⟩
  obtain ⟨x, hx⟩ := h1.exists_mem hne
  exact (mem_nil x).1 (hnil ▸ (mem_normalize x _).2 ((mem_append x l0 ol).2 (Or.inr hx)))

theorem joined_normal (acc : GtidSet) (e : Key × IvList) (ha : WF acc) (he : Normal e.2 ∧ e.2 ≠ []) :
    Normal (joined acc e) ∧ joined acc e ≠ [] := by
  unfold joined
  split
  · exact he
  · rename_i l0 h
    exact normalize_append_ok l0 e.2 (wf_normal_of_lookup ha h) he.1 he.2

theorem wf_updStep (acc : GtidSet) (e : Key × IvList) (ha : WF acc) (he : Normal e.2 ∧ e.2 ≠ []) :
    WF (updStep acc e) := by
  have hn : (keys (updStep acc e)).Nodup := by
    cases h : lookup acc e.1 with
    | none =>
      have hnk : e.1 ∉ keys acc := fun hk => by
        obtain ⟨l, hl⟩ := lookup_isSome_of_key hk
        exact nomatch h.symm.trans hl
      rw [updStep_of_none h, keys, List.map_append, List.nodup_append]
      refine ⟨ha.1, List.pairwise_singleton _ _, fun a ha' b hb hab => hnk ?_⟩
      rw [show e.1 = b from (List.mem_singleton.1 hb).symm, ← hab]; exact ha'
    | some l0 => rw [updStep_of_some h, keys_mapVals]; exact ha.1
  refine ⟨hn, fun k l hm => ?_⟩
  have hl := (lookup_updStep acc e k).symm.trans (lookup_of_mem hn hm)
  split at hl
  · cases hl
    exact joined_normal acc e ha he
  · exact ha.2 k l (mem_of_lookup hl)

theorem wf_update (s o : GtidSet) (hs : WF s) (ho : ∀ k l, (k, l) ∈ o → Normal l ∧ l ≠ []) :
    WF (update s o) := by
  rw [update_eq_foldl]
  induction o generalizing s with
  | nil => exact hs
  | cons e r ih =>
    simp only [List.foldl_cons]
    exact ih (updStep s e) (wf_updStep s e hs (ho e.1 e.2 List.mem_cons_self))
      (fun k l hm => ho k l (List.mem_cons_of_mem _ hm))

end GtidLemmas
