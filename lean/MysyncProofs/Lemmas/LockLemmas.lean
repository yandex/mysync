/- Lemmas for C03, part 3 (parts 1, 2: LockServer.lean, LockInv.lean; the transitions: LockStep.lean): `holds` as a
proposition, the state right after a guarded expiry, the growth of `told`, and the light invariant of the TTL-0
theorem. -/
import MysyncProofs.Lemmas.LockInv

namespace LockLemmas
open Zk LockSys

theorem holds_iff (σ : Sys) (i : Nat) :
    holds σ i = true ↔ ∃ c, σ.clients[i]? = some c ∧ HoldsC σ.srv σ.lock c.id c.sid := by
  unfold holds HoldsC
  cases σ.clients[i]? with
  | none => simp
  | some c =>
    cases σ.srv.find? σ.lock with
    | none => simp
    | some n =>
      simp only [Bool.and_eq_true, beq_iff_eq, List.contains_iff_mem, Option.some.injEq, exists_eq_left', and_assoc]

/-- no invariant needed: the session is not live any more -/
theorem holds_expire_self {σ : Sys} {i : Nat} {c : Client} (hc : σ.clients[i]? = some c) :
    holds { σ with srv := σ.srv.expire c.sid } i = false := by
  cases hh : holds { σ with srv := σ.srv.expire c.sid } i with
  | false => rfl
  | true =>
    obtain ⟨c', hc', _, _, _, _, hl⟩ := (holds_iff _ _).1 hh
    have hc'' : σ.clients[i]? = some c' := hc'
    rw [hc] at hc''
    cases hc''
    simp [Server.expire] at hl

theorem expired_not_holder {σ : Sys} {st : Step} {i : Nat} (hst : st = .expire i ∨ st = .expireAcq i)
    (he : step σ st ≠ σ) :
    holds (step σ st) i = false ∧ ∀ c', (step σ st).clients[i]? = some c' → c'.cache = none := by
  rcases step_fires σ st with e | f
  · exact absurd e he
  generalize step σ st = σ' at f
  have key : ∀ {c : Client}, σ.clients[i]? = some c → c.cache = none →
      holds { σ with srv := σ.srv.expire c.sid } i = false ∧
      ∀ c', ({ σ with srv := σ.srv.expire c.sid } : Sys).clients[i]? = some c' → c'.cache = none :=
    fun hi hcache => ⟨holds_expire_self hi, fun c' hc' => Option.some.inj (hi.symm.trans hc') ▸ hcache⟩
  rcases hst with rfl | rfl
  · cases f with | expire hi hcache => exact key hi hcache
  · cases f with | expireAcq hi hcache => exact key hi hcache

theorem cacheFresh_iff {cache : Option Int} {now ttl : Int} :
    cacheFresh cache now ttl = true ↔ ∃ t, cache = some t ∧ now - t < ttl := by
  cases cache <;> simp [cacheFresh]

theorem settle_told {σ : Sys} {i : Nat} {c : Client} {p : Prog Res} {j : Nat} {b : Bool} {srv : Server}
    (hi : σ.clients[i]? = some c) (h : (settle { σ with srv := srv } i c p).told = (j, b) :: σ.told) :
    ∃ c', (settle { σ with srv := srv } i c p).clients[j]? = some c' ∧ c'.cache ≠ none := by
  rcases settle_cases { σ with srv := srv } i c p with ⟨_, e⟩ | e | ⟨_, e⟩
  · rw [e] at h ⊢
    cases h
    exact ⟨_, List.getElem?_set_self_of_some hi, by simp⟩
  · rw [e] at h; exact absurd h.symm (List.cons_ne_self _ _)
  · rw [e] at h; exact absurd h.symm (List.cons_ne_self _ _)

theorem told_grows_cache (σ : Sys) (st : Step) (j : Nat) (b : Bool) (h : (step σ st).told = (j, b) :: σ.told) :
    ∃ c', (step σ st).clients[j]? = some c' ∧ c'.cache ≠ none := by
  rcases step_fires σ st with e | f
  · rw [e] at h; exact absurd h.symm (List.cons_ne_self _ _)
  generalize step σ st = σ' at h f
  cases f with
  | @cached i c hi _ hfresh =>
    cases h
    obtain ⟨t, ht, _⟩ := cacheFresh_iff.1 hfresh
    exact ⟨c, hi, by rw [ht]; simp⟩
  | prim hi | primLost hi | fail _ hi => exact settle_told hi h
  | _ => exact absurd h.symm (List.cons_ne_self _ _)

/-- cache entries are never in the future, and the cache has not answered so far -/
def TtlInv (σ : Sys) : Prop :=
  σ.ttl = 0 ∧ (∀ c ∈ σ.clients, ∀ t, c.cache = some t → t ≤ σ.now) ∧ ∀ i, (i, true) ∉ σ.told

theorem ttl_update {σ : Sys} {i : Nat} {c' : Client} {told : List (Nat × Bool)} {srv : Server} {next : Sid} (h : TtlInv σ)
    (hc' : ∀ t, c'.cache = some t → t ≤ σ.now) (htold : told = σ.told ∨ ∃ j, told = (j, false) :: σ.told) :
    TtlInv { σ with srv := srv, nextSid := next, clients := setClient σ.clients i c', told := told } := by
  refine ⟨h.1, fun x hx t ht => ?_, fun k hk => ?_⟩
  · rcases List.mem_or_eq_of_mem_set hx with hx | rfl
    · exact h.2.1 x hx t ht
    · exact hc' t ht
  · rcases htold with rfl | ⟨j, rfl⟩
    · exact h.2.2 k hk
    · simp only [List.mem_cons, Prod.mk.injEq, Bool.true_eq_false, and_false, false_or] at hk
      exact h.2.2 k hk

-- `TtlInv` does not mention the server, so `h` also serves for `{ σ with srv := _ }` (by unfolding)
theorem ttl_settle {σ : Sys} {i : Nat} {c : Client} (p : Prog Res) (h : TtlInv σ) (hc : c ∈ σ.clients) :
    TtlInv (settle σ i c p) := by
  rcases settle_cases σ i c p with ⟨_, e⟩ | e | ⟨_, e⟩
  · rw [e]; exact ttl_update h (fun t ht => by cases ht; exact Int.le_refl _) (Or.inr ⟨i, rfl⟩)
  · rw [e]; exact ttl_update h (h.2.1 c hc) (Or.inl rfl)
  · rw [e]; exact ttl_update h (h.2.1 c hc) (Or.inl rfl)

theorem ttl_step {σ : Sys} (h : TtlInv σ) (st : Step) : TtlInv (step σ st) := by
  rcases step_fires σ st with e | f
  · rw [e]; exact h
  generalize step σ st = σ' at f
  cases f with
  | tick d =>
    refine ⟨h.1, fun x hx t ht => ?_, h.2.2⟩
    have := h.2.1 x hx t ht
    show t ≤ σ.now + d
    omega
  | @cached i c hi _ hfresh =>
    -- with TTL 0 no entry is fresh
    obtain ⟨t, ht, hlt⟩ := cacheFresh_iff.1 hfresh
    have := h.2.1 c (List.mem_of_getElem? hi) t ht
    rw [h.1] at hlt
    omega
  | acquire | release | event => exact ttl_update h (fun _ ht => nomatch ht) (Or.inl rfl)
  | prim hi | primLost hi | fail _ hi => exact ttl_settle _ h (List.mem_of_getElem? hi)
  | @reconnect i c hi => exact ttl_update h (h.2.1 c (List.mem_of_getElem? hi)) (Or.inl rfl)
  | _ => exact h

theorem ttl_run {σ : Sys} (h : TtlInv σ) (steps : List Step) : TtlInv (run σ steps) :=
  List.foldlRecOn steps _ h fun _ hσ st _ => ttl_step hσ st

theorem ttl_init (ids : List String) (lock : Path) (parents : List (Path × ZNode)) :
    TtlInv (init ids lock 0 parents) := by
  refine ⟨rfl, ?_, fun i hi => by simp [init] at hi⟩
  intro c hc t ht
  obtain ⟨i, hi⟩ := List.getElem?_of_mem hc
  obtain ⟨_, _, rfl⟩ := init_client hi
  cases ht

end LockLemmas
