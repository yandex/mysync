/-
ReplSettingsSpec — the specification of the GENERATED predicates on replication settings and server versions
(`MysyncModel/Generated/ReplSettings.lean`, `MysyncModel/Generated/Version.lean`), in a fixed normal form.

Same discipline as `QuorumSpec`: this is the ONLY proof file that unfolds these generated definitions, with a
proof script that does not depend on their shape (split every conditional, normalise, linear arithmetic);
every other proof uses the lemmas below.  A behaviour-preserving rewrite of the Go code leaves the development
untouched; a change of the predicates breaks this file.
-/
import MysyncModel.Generated.ReplSettings
import MysyncModel.Generated.Version
import MysyncProofs.Lemmas.ShapeFree

namespace ReplSettingsSpec
open Gen.ReplSettings Gen.Version

theorem equal_spec (a b : ReplicationSettings) :
    Equal a b = true ↔
      (a.SyncBinlog = b.SyncBinlog ∧ a.InnodbFlushLogAtTrxCommit = b.InnodbFlushLogAtTrxCommit) := by
  unfold Equal
  shape_free

theorem equal_iff_eq (a b : ReplicationSettings) : Equal a b = true ↔ a = b := by
  rw [equal_spec]
  cases a; cases b
  simp only [ReplicationSettings.mk.injEq]
  exact And.comm

/-- settings can be relaxed iff `sync_binlog` is below 1000 and `innodb_flush_log_at_trx_commit` is 1 or 2 -/
theorem canBeOptimized_spec (rs : ReplicationSettings) :
    CanBeOptimized rs = true ↔
      (rs.SyncBinlog < 1000 ∧ (rs.InnodbFlushLogAtTrxCommit = 1 ∨ rs.InnodbFlushLogAtTrxCommit = 2)) := by
  unfold CanBeOptimized
  shape_free

/-- `SHOW REPLICA STATUS` exists from 8.0.22 on, not in 5.x, and in every other major version -/
theorem replicaStatus_spec (v : Version) :
    CheckIfVersionReplicaStatus v = true ↔
      ((v.MajorVersion = 8 ∧ (0 < v.MinorVersion ∨ 22 ≤ v.PatchVersion)) ∨
        (v.MajorVersion ≠ 8 ∧ v.MajorVersion ≠ 5)) := by
  unfold CheckIfVersionReplicaStatus
  shape_free

end ReplSettingsSpec
