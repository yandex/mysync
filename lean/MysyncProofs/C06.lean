/-
C06 — Every switch request reaches exactly one terminal outcome, in bounded time.
Property theorems of C06; what one iteration does to the keys (`tick_pending`, `tick_active`) is in
MysyncProofs/Lemmas/ManagerTick.lean.
Model: MysyncModel/App/Manager.lean + MysyncModel/App/SwitchLifecycle.lean.
The model describes the tree AFTER the `fix:` commit recorded in known_findings.json (time-out =
FinishSwitchover); before it `timeout_bound` was false on the real code.
-/
import MysyncModel.App.SwitchLifecycle
import MysyncProofs.Lemmas.ManagerTick

namespace C06
open NS Manager SwitchLifecycle ManagerLemmas

/-- a new request is never filed over a pending one (CLI, external worker and automatic failover all
go through the same create-if-absent) -/
theorem no_overwrite (k : Keys) (req : Switch) (h : k.switch.isSome) : file k req = (k, false) := by
  obtain ⟨sw, hs⟩ := Option.isSome_iff_exists.mp h
  unfold file; rw [hs]

theorem file_when_free (k : Keys) (req : Switch) (h : k.switch = none) :
    file k req = ({ k with switch := some req }, true) := by
  unfold file; rw [h]

/-- time-out bound (any request): at the first iteration of an active manager later than
`initiated_at + switchover_timeout` the request leaves `switch` and is recorded as rejected -/
theorem timeout_bound (cfg : Cfg) (i : In) (k : Keys) (sw : Switch)
    (ha : ActiveManager i) (hs : k.switch = some sw) (ht : timedOut cfg i.now sw = true)
    (hlight : ¬ (sw.failoverType = true ∧ i.maint = .record true true false)) :
    (tick cfg i k).switch = none ∧ (tick cfg i k).lastRejected = some sw ∧ (tick cfg i k).lastOk = k.lastOk := by
  rw [tick_active cfg i ha hs hlight]
  simp [outcome, ht]

/-- attempt bound (planned switchovers): once `run_count` has reached the limit the request is rejected -/
theorem attempt_bound (cfg : Cfg) (i : In) (k : Keys) (sw : Switch)
    (ha : ActiveManager i) (hs : k.switch = some sw) (ht : timedOut cfg i.now sw = false) (ho : overLimit cfg sw = true) :
    (tick cfg i k).switch = none ∧ (tick cfg i k).lastRejected = some sw ∧ (tick cfg i k).lastOk = k.lastOk := by
  have hft : sw.failoverType = false := by
    unfold overLimit at ho; cases h : sw.failoverType <;> simp [h] at ho ⊢
  rw [tick_active cfg i ha hs (by simp [hft])]
  simp [outcome, ht, approve_of_overLimit i ho]

/-- an approved request is not re-judged on retry: with `run_count > 0` (below the limit, not timed
out) the attempt is started whatever the current quorum is -/
theorem approved_once (cfg : Cfg) (i : In) (sw : Switch)
    (ha : ActiveManager i) (hs : i.sw = .record sw) (hr : sw.runCount > 0)
    (ht : timedOut cfg i.now sw = false) (ho : overLimit cfg sw = false)
    (hlight : ¬ (sw.failoverType = true ∧ i.maint = .record true true false)) :
    Step.switchStarted true ∈ (stateManager cfg i).steps ∧ Step.switchRejected ∉ (stateManager cfg i).steps := by
  rw [stateManager_active cfg ha hs hlight]
  simp only [hsTail, ht, approve_of_retry i hr ho, ha.startOk]
  cases i.perform <;> simp [performTail]

/-- each failed attempt is counted exactly once and keeps the request pending -/
theorem each_failure_counted (cfg : Cfg) (i : In) (k : Keys) (sw : Switch)
    (ha : ActiveManager i) (hs : k.switch = some sw) (ht : timedOut cfg i.now sw = false) (ho : overLimit cfg sw = false)
    (happ : approveSwitchover cfg { i with sw := .record sw } sw = true) (hp : i.perform = .failed)
    (hlight : ¬ (sw.failoverType = true ∧ i.maint = .record true true false)) :
    (tick cfg i k).switch = some { sw with runCount := sw.runCount + 1 } ∧
    (tick cfg i k).lastOk = k.lastOk ∧ (tick cfg i k).lastRejected = k.lastRejected := by
  have _ := ho  -- implied by `happ`
  rw [tick_active cfg i ha hs hlight]
  have happ' : approveSwitchover cfg i sw = true := happ
  simp [outcome, ht, happ', ha.startOk, hp]

/-- exactly one terminal outcome per iteration: a request leaves `switch` through exactly one of
"recorded as succeeded", "recorded as rejected", "removed by the operator meanwhile", and the two
records are never both written by one iteration -/
theorem one_terminal_outcome (cfg : Cfg) (i : In) (k : Keys) (sw : Switch)
    (hs : k.switch = some sw) (hgone : (tick cfg i k).switch = none) :
    ((tick cfg i k).lastOk = some sw ∧ (tick cfg i k).lastRejected = k.lastRejected ∧ i.perform = .ok) ∨
    ((tick cfg i k).lastRejected = some sw ∧ (tick cfg i k).lastOk = k.lastOk) ∨
    ((tick cfg i k).lastOk = k.lastOk ∧ (tick cfg i k).lastRejected = k.lastRejected ∧ i.perform = .abortedMeanwhile) := by
  rcases tick_pending cfg i hs with e | e | ⟨e, hp⟩ | ⟨e, _⟩ | ⟨e, hp⟩ <;> rw [e] at hgone ⊢
  · rw [hs] at hgone; cases hgone
  · exact Or.inr (Or.inl ⟨rfl, rfl⟩)
  · exact Or.inl ⟨rfl, rfl, hp⟩
  · cases hgone
  · exact Or.inr (Or.inr ⟨rfl, rfl, hp⟩)

/-- a pending request is only ever touched by the lock holder -/
theorem only_lock_holder_touches (cfg : Cfg) (i : In) (k : Keys)
    (h : i.connected = false ∨ i.lockHeld = false) : tick cfg i k = k := by
  rw [tick_eq, (stateManager_no_lock cfg (tickIn i k) h).1]; rfl

/-- recorded as succeeded only when the switchover procedure reported success in this iteration -/
theorem success_needs_perform_ok (cfg : Cfg) (i : In) (k : Keys) (sw : Switch)
    (h : (tick cfg i k).lastOk = some sw) (hne : k.lastOk ≠ some sw) : i.perform = .ok ∧ k.switch = some sw := by
  rcases hs : k.switch with _ | sw'
  · rcases tick_none_cases cfg i hs with e | e <;> rw [e] at h <;> exact absurd h hne
  · rcases tick_pending cfg i hs with e | e | ⟨e, hp⟩ | ⟨e, _⟩ | ⟨e, _⟩ <;> rw [e] at h
    -- only "succeeded" writes `last_switch`
    case inr.inr.inl => exact ⟨hp, congrArg some (Option.some.inj h)⟩
    all_goals exact absurd h hne

/-- bounded number of attempts for planned switchovers: with a limit `m > 0`, after at most
`m - run_count + 1` iterations of active managers (whatever the procedure's outcomes, as long as it
does not panic) the request has left `switch` (at least one iteration is needed: `is ≠ []` — without it
the statement is false for a request that is already past the limit, see Lemmas/ManagerTick.lean) -/
theorem planned_switchover_bounded (cfg : Cfg) (is : List In) (k : Keys) (sw : Switch)
    (hm : cfg.switchoverMaxAttempts > 0) (hp : sw.failoverType = false)
    (hs : k.switch = some sw)
    (hall : ∀ i ∈ is, ActiveManager i ∧ i.perform ≠ .panicked)
    (hne : is ≠ [])
    (hlen : (is.length : Int) ≥ cfg.switchoverMaxAttempts - sw.runCount + 1) :
    (is.foldl (fun k i => tick cfg i k) k).switch ≠ some sw ∧
    ∀ sw', (is.foldl (fun k i => tick cfg i k) k).switch = some sw' → sw'.causeAuto = true :=
  (planned_leaves cfg is hm hp hs hall hne hlen).not_planned hp

-- non-vacuity
private def cfg0 : Cfg := ⟨true, 30, 3600, false, true, 1, 1800, 2⟩
private def rep : NodeState := { pingOk := true, slave := some { state := .running, masterHost := "m" } }
private def i0 : In :=
  { master := some "m", activeNodes := ["m", "a", "b"],
    cs := [("m", ({ pingOk := true, isMaster := true } : NodeState)), ("a", rep), ("b", rep)],
    dcs := [("m", ({ pingOk := true, isMaster := true } : NodeState)), ("a", rep), ("b", rep)], now := 5000, failedAt := none, perform := .failed }
private def req : Switch := { to := "a", initiatedAt := some 4000 }
example : (tick cfg0 i0 { switch := some req }).switch = some { req with runCount := 1 } := by decide +kernel
example : (tick cfg0 { i0 with now := 9000 } { switch := some req }).lastRejected = some req := by decide +kernel

end C06
