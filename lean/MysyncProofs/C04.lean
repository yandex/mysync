/-
C04 — Published active list covers every semi-sync acker and matches the ack count.
Property theorems of C04; lemmas in MysyncProofs/Lemmas/ActiveNodesCalc.lean, ActiveNodesTrace.lean, ActiveNodesLemmas.lean.
Model: MysyncModel/App/ActiveNodes.lean.

The crash-point / failed-call clause of the property is FALSE on the unchanged tree (and of the model,
which corresponds to it exactly): the `witness_*` theorems below are machine-checked concrete
histories for every class recorded in known_findings.json; the `…_partial` theorems state what does
hold and under which side conditions.
-/
import MysyncModel.App.ActiveNodes
import MysyncProofs.Lemmas.ActiveNodesLemmas

namespace C04
open NS Gtid ActiveNodes

/-! ### membership rule (`calcActiveNodes`) -/

/-- who is a member, in the property's terms: the master; or a non-cascade host, not marked for
recovery, that is either (reachable, a running replica whose executed set is not split-brained w.r.t.
the master's) or (unreachable, previously a member, and dubious / holding its health record / failing
for less than the inactivation delay) -/
theorem membership_rule (delay : Int) (i : CalcIn) (host : String) (node : NodeState)
    (hmem : (classify delay i host node).1.isMember = true) (hne : host ≠ i.master) :
    node.isCascade = false ∧
    (∀ l, i.recovery = some l → host ∉ l) ∧
    ((node.pingOk = true ∧ ∃ sl sg mg mu, node.slave = some sl ∧ sl.state = .running ∧
        parse sl.executed = some sg ∧ i.mgtid.bind parse = some mg ∧ i.muuid = some mu ∧ isSplitBrained sg mg mu = false) ∨
     (node.pingOk = false ∧ host ∈ i.oldActive ∧ ∃ d, i.dcs.get? host = some d ∧
        (node.pingDubious = true ∨ d.pingOk = true ∨
          ∃ t, (i.timers.get? host = some t ∨ (i.timers.get? host = none ∧ t = i.now)) ∧ i.now - t < delay))) :=
  (ActiveNodesLemmas.isMember_classify delay i host node hne).mp hmem

/-- the master is always a member, even when it is marked for recovery -/
theorem master_always_member (delay : Int) (i : CalcIn) (node : NodeState) :
    (classify delay i i.master node).1 = .master := by
  simp [classify]

/-- never ADDS an unreachable host: unreachable hosts are members only if they were members before -/
theorem unreachable_never_added (delay : Int) (i : CalcIn) (host : String) (node : NodeState)
    (hp : node.pingOk = false) (hne : host ≠ i.master) (hold : host ∉ i.oldActive) :
    (classify delay i host node).1.isMember = false := by
  rw [Bool.eq_false_iff, Ne, ActiveNodesLemmas.isMember_classify delay i host node hne]
  rintro ⟨-, -, ⟨hp', -⟩ | ⟨-, hold', -⟩⟩
  · rw [hp] at hp'; cases hp'
  · exact hold hold'

/-- the list returned by `calcActiveNodes` consists exactly of the visited hosts classified as members -/
theorem calc_members (delay : Int) (i : CalcIn) (active : List String) (cls : List (String × Membership)) (t : Timers)
    (h : calcActiveNodes delay i = some (active, cls, t)) :
    ∀ x, x ∈ active ↔ ∃ n, (x, n) ∈ i.cs ∧ (classify delay i x n).1.isMember = true := by
  unfold calcActiveNodes at h
  split at h
  · simp only [Option.some.injEq, Prod.mk.injEq] at h
    obtain ⟨h1, -, -⟩ := h
    intro x
    rw [← h1, ActiveNodesLemmas.mem_sortStr]
    simp only [List.mem_map, List.mem_filter, Prod.exists]
    constructor
    · rintro ⟨a, m, o, ⟨⟨a', n, hmem, heq⟩, hm⟩, rfl⟩
      simp only [Prod.mk.injEq] at heq
      obtain ⟨rfl, hc⟩ := heq
      refine ⟨n, hmem, ?_⟩
      rw [hc]; exact hm
    · rintro ⟨n, hmem, hm⟩
      exact ⟨x, (classify delay i x n).1, (classify delay i x n).2, ⟨⟨x, n, hmem, rfl⟩, hm⟩, rfl⟩
  · simp at h

/-! ### download-lag gate (`calcActiveNodesChanges`) -/

/-- a replica enters semi-sync (is in `becomeActive`) only if its download lag does not exceed
`semi_sync_enable_lag` -/
theorem datalag_gate (cfg : Cfg) (cs : ClusterState) (active old : List String) (master : String)
    (bl : List (String × Int)) (rp : List (String × String)) (ch : Changes) (h : String)
    (hc : calcChanges cfg cs active old master (some bl) rp = some ch) (hm : h ∈ ch.becomeActive) :
    ∀ sl, (cs.get? h).bind (·.slave) = some sl → calcLagBytes bl sl.logFile sl.logPos ≤ cfg.semiSyncEnableLag := by
  exact ActiveNodesLemmas.gate_eq_none.mp ((ActiveNodesLemmas.mem_becomeActive hc hm).2.2 bl rfl)

/-- a lagging replica whose IO position did not advance is made inactive; one that advances is
neither enabled nor made inactive -/
theorem datalag_disjoint (cfg : Cfg) (cs : ClusterState) (active old : List String) (master : String)
    (bl : Option (List (String × Int))) (rp : List (String × String)) (ch : Changes)
    (hc : calcChanges cfg cs active old master bl rp = some ch) :
    (∀ h, h ∈ ch.dataLag → h ∉ ch.becomeActive) ∧ (∀ h, h ∈ ch.becomeActive → h ∉ ch.becomeInactive) :=
  ⟨fun _ h1 h2 => (ActiveNodesLemmas.mem_becomeActive hc h2).1 h1,
   fun _ h1 => (ActiveNodesLemmas.mem_becomeActive hc h1).2.1⟩

/-! ### ordering facts of `updateActiveNodes` -/

/-- members are evicted only while the manager can reach the master: a publication that drops a
previous member is directly preceded by a successful ping of the master -/
theorem eviction_needs_master (i : UpdIn) (active : List String) (l : List String) (ok : Bool)
    (hp : (⟨.publish l, ok⟩ : Ev) ∈ publishPart i active) (hrem : filterOut i.oldActive active ≠ []) :
    (⟨.pingMasterShrink, true⟩ : Ev) ∈ publishPart i active ∧ l = active := by
  revert hp
  -- rows: nobody removed (excluded by `hrem`); the second ping failed (nothing published); it succeeded
  fun_cases publishPart i active
  case case1 he => exact absurd (List.isEmpty_iff.mp he) hrem
  case case2 => simp
  case case3 => simp +contextual

/-- nothing at all is changed when the first master ping fails -/
theorem suspicious_master_no_update (cfg : Cfg) (i : UpdIn) (h : i.fails .pingMaster = true) :
    updateSemiSync cfg i = [⟨.pingMaster, false⟩] := by
  rw [ActiveNodesLemmas.updateSemiSync_eq, if_pos h]

/-- publication is the last call of the procedure -/
theorem publish_is_last (cfg : Cfg) (i : UpdIn) (l : List String) (ok : Bool)
    (h : (⟨.publish l, ok⟩ : Ev) ∈ updateSemiSync cfg i) : (updateSemiSync cfg i).getLast? = some ⟨.publish l, ok⟩ := by
  open ActiveNodesLemmas in
  rw [updateSemiSync_eq] at h ⊢
  by_cases h1 : i.fails .pingMaster = true
  · rw [if_pos h1] at h; simp at h
  · rw [if_neg h1] at h ⊢
    by_cases h2 : (!(seg1 cfg i).2) = true
    · -- stopped after the first adjustment of the master: nothing is published
      rw [if_pos h2] at h
      exact absurd (AllCalls.cons (p := fun c => !isPublish c) (e := ⟨.pingMaster, true⟩) rfl
        ((seg1_calls cfg i (f := ⟨[], true⟩) rfl).mono Footprint.notPublish) _ h) Bool.false_ne_true
    · rw [if_neg h2, ← List.cons_append] at h ⊢
      rcases List.mem_append.mp h with h | h
      · exact absurd (AllCalls.cons (e := ⟨.pingMaster, true⟩) rfl ((body_calls cfg i).mono Footprint.notPublish) _ h)
          Bool.false_ne_true
      · rw [List.getLast?_append, publishPart_last i _ l ok h]; rfl

/-- replicas entering semi-sync are enabled in list order and a host whose enabling failed is not published -/
theorem failed_enable_not_published (i : UpdIn) (hs : List String) (wsc : Int) (active : List String) (h : String)
    (hh : h ∈ hs) (hf : i.fails (.ssSetSlave h) = true) : h ∉ (enableLoop i hs wsc active).2.2 :=
  fun hx => Bool.false_ne_true (((ActiveNodesLemmas.mem_enableLoop i hs wsc active h hx).2 hh).symm.trans hf)

/-! ### (a) and (b) after a complete iteration -/

/-- the semi-sync world described by the snapshot the iteration works from -/
def WorldMatches (i : UpdIn) (w : World) : Prop :=
  (∀ h, h ∈ w.slaveEnabled ↔ ∃ s ss, i.cs.get? h = some s ∧ s.semiSync = some ss ∧ ss.slaveEnabled = true) ∧
  (∃ ms ss, i.cs.get? i.master = some ms ∧ ms.semiSync = some ss ∧ w.masterEnabled = ss.masterEnabled ∧ w.waitCount = ss.waitSlaveCount) ∧
  w.published = i.oldActive

/-- (a) after a complete fault-free iteration: every reachable replica of the snapshot with the
semi-sync flag on is in the published list.  PARTIAL: stated for the replicas the iteration itself
handles (hosts of the snapshot), with all calls succeeding. -/
theorem complete_iteration_restores_A_partial (cfg : Cfg) (i : UpdIn) (w : World)
    (hw : WorldMatches i w) (hok : ∀ c, i.fails c = false)
    (hchg : i.changes.becomeInactive = filterOut ((i.cs.filter fun e => match e.2.semiSync with | some ss => ss.slaveEnabled | none => false).map (·.1)) i.active)
    (hsub : ∀ h, h ∈ i.changes.becomeActive → h ∈ i.active) (hm : i.master ∉ i.changes.becomeActive) :
    let w' := w.run i.master (updateSemiSync cfg i)
    ∀ h, h ∈ w'.slaveEnabled → h ≠ i.master → h ∈ w'.published := by
  intro w' h hh _
  have _ := hm  -- not needed: the lemma holds without it (and for `h = i.master` too)
  exact ActiveNodesLemmas.complete_iteration_restores_A cfg i w hw hok hchg hsub h hh

/-- (b) after a complete fault-free iteration WITHOUT data-lagging replicas: the master waits for at
least the number implied by the published list.  PARTIAL: with data-lagging replicas the statement is
false (`witness_B_data_lag`); `hchg` (the change set is the one `calcActiveNodesChanges` computes, so the
master is not told to leave semi-sync) is needed too: `ActiveNodesLemmas.counterexample_B_master_becomeInactive`. -/
theorem complete_iteration_restores_B_partial (cfg : Cfg) (i : UpdIn) (w : World)
    (hw : WorldMatches i w) (hok : ∀ c, i.fails c = false) (hlag : i.changes.dataLag = [])
    (hchg : i.changes.becomeInactive = filterOut ((i.cs.filter fun e => match e.2.semiSync with | some ss => ss.slaveEnabled | none => false).map (·.1)) i.active)
    (hm : i.master ∈ i.active) :
    invB cfg (w.run i.master (updateSemiSync cfg i)) = true := by
  -- the master is a member, so `calcActiveNodesChanges` does not tell it to leave semi-sync
  have hmi : i.master ∉ i.changes.becomeInactive := by
    rw [hchg, ActiveNodesLemmas.mem_filterOut]; exact fun h => h.2 hm
  unfold invB
  rw [ActiveNodesLemmas.complete_iteration_restores_B cfg i w hw hok hlag hmi]
  exact decide_eq_true (Int.le_refl _)

/-! ### machine-checked witnesses of the breaker classes (negations with concrete histories) -/

private def ssm (w : Int) : NodeState := { pingOk := true, isMaster := true, masterExecuted := some "", semiSync := some ⟨true, false, w⟩ }
private def rep (ss : Bool) : NodeState := { pingOk := true, slave := some { state := .running, masterHost := "m" }, semiSync := some ⟨false, ss, 1⟩ }
private def cfgL : Cfg := ⟨true, 1, 30, 1000, false⟩
private def cfgM : Cfg := ⟨true, 1, 30, 1000, true⟩
private def noFail : Call → Bool := fun _ => false

/-- crash window for (a): a joining replica acknowledges before it is published -/
theorem witness_A_crash_window :
    let i : UpdIn := { cs := [("m", ssm 1), ("a", rep true), ("b", rep false)], master := "m", oldActive := ["m", "a"],
                       active := ["a", "b", "m"], changes := ⟨["b"], [], []⟩, ahead := fun _ => false, fails := noFail }
    let w0 : World := ⟨["a"], true, 1, ["m", "a"]⟩
    invA ["a", "b"] w0 = true ∧
    -- the prefix of length 2 (crash after `SET rpl_semi_sync_slave_enabled = 1` on b)
    invA ["a", "b"] (w0.run "m" ((updateSemiSync cfgL i).take 2)) = false := by
  exact ⟨by decide +kernel, by decide +kernel⟩

/-- crash window for (b): the ack count is lowered before the smaller list is published (both orders) -/
theorem witness_B_crash_window :
    let i : UpdIn := { cs := [("m", ssm 1), ("a", { pingOk := false })], master := "m", oldActive := ["m", "a"],
                       active := ["m"], changes := ⟨[], [], []⟩, ahead := fun _ => false, fails := noFail }
    let w0 : World := ⟨[], true, 1, ["m", "a"]⟩
    invB cfgL w0 = true ∧
    -- the prefix of length 2 (crash after the master's semi-sync was switched off, before the publication)
    invB cfgL (w0.run "m" ((updateSemiSync cfgL i).take 2)) = false ∧
    invB cfgM (w0.run "m" ((updateSemiSync cfgM i).take 2)) = false := by
  exact ⟨by decide +kernel, by decide +kernel, by decide +kernel⟩

/-- (b) is false after a COMPLETE fault-free iteration when a data-lagging replica is published -/
theorem witness_B_data_lag :
    let i : UpdIn := { cs := [("m", ssm 1), ("a", rep false)], master := "m", oldActive := ["m", "a"],
                       active := ["a", "m"], changes := ⟨[], [], ["a"]⟩, ahead := fun _ => false, fails := noFail }
    let w0 : World := ⟨[], true, 1, ["m", "a"]⟩
    invB cfgL w0 = true ∧ invB cfgL (w0.run "m" (updateSemiSync cfgL i)) = false := by
  exact ⟨by decide +kernel, by decide +kernel⟩

/-- one failed `SemiSyncDisable` on a leaving replica and the eviction is published anyway: (a) destroyed -/
theorem witness_A_failed_disable :
    let i : UpdIn := { cs := [("m", ssm 1), ("a", { (rep true) with slave := some { state := .stopped, masterHost := "m" } })],
                       master := "m", oldActive := ["m", "a"], active := ["m"], changes := ⟨[], ["a"], []⟩,
                       ahead := fun _ => false, fails := fun c => c == .ssDisable "a" }
    let w0 : World := ⟨["a"], true, 1, ["m", "a"]⟩
    invA ["a"] w0 = true ∧ invA ["a"] (w0.run "m" (updateSemiSync cfgL i)) = false := by
  exact ⟨by decide +kernel, by decide +kernel⟩

/-- the raise of the master's ack count fails (only logged) and the enlarged list is published: (b) destroyed -/
theorem witness_B_failed_raise :
    let i : UpdIn := { cs := [("m", { (ssm 1) with semiSync := some ⟨false, false, 1⟩ }), ("a", rep false)], master := "m", oldActive := ["m"],
                       active := ["a", "m"], changes := ⟨["a"], [], []⟩, ahead := fun _ => false, fails := fun c => c == .ssSetMaster "m" }
    let w0 : World := ⟨[], false, 1, ["m"]⟩
    invB cfgM w0 = true ∧ invB cfgM (w0.run "m" (updateSemiSync cfgM i)) = false := by
  exact ⟨by decide +kernel, by decide +kernel⟩

end C04
