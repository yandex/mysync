/-
C01 — Promotion only of a caught-up node backed by a frozen quorum.
Property theorems of C01; the lemmas about the stage list they rest on are in MysyncProofs/Lemmas/SwitchoverLemmas.lean.
Models: MysyncModel/App/Switchover.lean (`performSwitchover` at phase level, every external outcome an
oracle input, a crash = a prefix of the step list), MysyncModel/World/Env.lean (environment steps),
MysyncModel/Select.lean + Gtid.lean (positions), Generated/SwitchHelper.lean (quorum).
-/
import MysyncModel.App.Switchover
import MysyncModel.World.Env
import MysyncProofs.Lemmas.SwitchoverLemmas
import MysyncProofs.Lemmas.GtidLemmas
import MysyncProofs.Lemmas.NormalizeLemmas
import MysyncProofs.Lemmas.QuorumSpec

namespace C01
open NS Gtid Select Switchover

abbrev GSubset (s m : GtidSet) : Prop := GtidLemmas.GSubset s m

/-- every step that makes a node writable -/
def IsPromotion (s : Step) : Prop := ∃ h ok, s = .setWritable h ok

/-- what has syntactically happened before any promotion, for ALL oracle inputs (all call outcomes,
all cluster shapes, all request kinds): the request's target (if any) is in the published list, nobody
is dubious, the frozen hosts passed the quorum re-count against the published list INCLUDING the old
master, the lock was re-confirmed after the freeze and after catch-up, positions of exactly the frozen
hosts were collected and have a maximum (no split brain), and the new master caught up with it (or the
async escape fired) -/
theorem promotion_needs (cfg : Cfg) (i : In) (s : Step) (hs : s ∈ performSwitchover cfg i) (hp : IsPromotion s) :
    (i.sw.to = "" ∨ i.sw.to ∈ i.active) ∧ dubiousHAHosts i.cs = [] ∧
    Gen.SwitchHelper.CheckFailoverQuorum (sh cfg) i.active (frozen i).length = none ∧
    i.lock1 = true ∧ i.lock2 = true ∧
    (∃ ps mr, i.positions = some ps ∧ ps.length = (frozen i).length ∧ findMostRecent ps = .node mr) ∧
    (i.catchUp = .caught ∨ i.catchUp = .asyncEscape) := by
  obtain ⟨h, ok, rfl⟩ := hp
  have g := (SwitchoverLemmas.writable_reach hs).1.guards
  obtain ⟨ps, mr, h1, _, h2, h3, _⟩ := g.positions
  exact ⟨g.target, g.noDubious, Option.isNone_iff_eq_none.mp g.quorum, g.lock1, g.lock2, ⟨ps, mr, h1, h2, h3⟩, g.catchUp⟩

/-- frozen hosts are members of the published list (minus the failed master of an automatic failover),
were reachable in the view, accepted the read-only request and — unless it is the old master —
stopped their IO thread -/
theorem frozen_spec (i : In) (h : String) (hf : h ∈ frozen i) :
    h ∈ i.active ∧ (i.cs.get? h).map (·.pingOk) = some true ∧ i.ro h = true ∧ (h = i.oldMaster ∨ i.io h = true) := by
  obtain ⟨hw, hc⟩ := List.mem_filter.mp hf
  simp only [Bool.and_eq_true, beq_iff_eq, Bool.or_eq_true] at hc
  exact ⟨SwitchoverLemmas.workList_subset i h hw, hc.1.1, hc.1.2, hc.2⟩

/-- the quorum re-count in numbers: with semi-sync the frozen hosts are at least the failover quorum
of the PUBLISHED list, without semi-sync at least one -/
theorem quorum_recount (cfg : Cfg) (i : In) (s : Step) (hs : s ∈ performSwitchover cfg i) (hp : IsPromotion s) :
    (cfg.semiSync = true → Gen.SwitchHelper.GetFailoverQuorum (sh cfg) i.active ≤ (frozen i).length) ∧
    (cfg.semiSync = false → 1 ≤ (frozen i).length) := by
  have h := (promotion_needs cfg i s hs hp).2.2.1
  refine ⟨fun hs => (QuorumSpec.check_spec_semi _ _ _ hs).mp h, fun hs => ?_⟩
  have := (QuorumSpec.check_spec_async _ _ _ hs).mp h
  omega

/-- E3 (environment lemma, not an axiom): a frozen node's `executed ∪ retrieved` does not grow under
any sequence of environment steps, and it stays frozen -/
theorem frozen_totals_stable (n n' : Env.Node) (hf : Env.Frozen n) (hs : Env.Steps n n') :
    Env.Frozen n' ∧ ∀ k x, n'.Total k x → n.Total k x := by
  induction hs with
  | refl => exact ⟨hf, fun _ _ h => h⟩
  | tail _ hstep ih =>
    obtain ⟨⟨hro, hio⟩, hsub⟩ := ih
    -- a frozen node neither downloads (`io = false`) nor commits (`ro = true`); applying moves retrieved to executed
    cases hstep with
    | download r' h _ => rw [hio] at h; cases h
    | apply e' _ _ hsub' => exact ⟨⟨hro, hio⟩, fun k x h => hsub k x (h.elim (hsub' k x) Or.inr)⟩
    | commit e' h _ => rw [hro] at h; cases h
    | die | idle => exact ⟨⟨hro, hio⟩, hsub⟩

/-- executed sets only grow under environment steps -/
theorem executed_monotone (n n' : Env.Node) (hs : Env.Steps n n') : ∀ k x, n.executed.Mem k x → n'.executed.Mem k x := by
  induction hs with
  | refl => exact fun _ _ h => h
  | tail _ hstep ih =>
    cases hstep with
    | apply e' _ hmono _ | commit e' _ hmono => exact fun k x h => hmono k x (ih k x h)
    | _ => exact ih

/-- The semantic core.  Let `total f` be the frozen host's `executed ∪ retrieved` as collected in phase 3
(`hpos`: the collected positions are exactly those of the frozen hosts, well-formed), and let
`execNew` be what the new master had executed when the catch-up test succeeded (`hcaught`: it contains
the most recent position).  Then before any promotion every frozen host's transactions — executed or
merely received — are contained in what the promoted node has executed. -/
theorem promotion_safe (cfg : Cfg) (i : In) (s : Step) (hs : s ∈ performSwitchover cfg i) (hp : IsPromotion s)
    (total : String → GtidSet) (execNew : GtidSet)
    (hpos : ∀ ps, i.positions = some ps → (∀ p ∈ ps, WF p.gtid ∧ p.gtid = total p.host) ∧ ∀ f ∈ frozen i, ∃ p ∈ ps, p.host = f)
    (hcaught : i.catchUp = .caught → ∀ ps mr, i.positions = some ps → findMostRecent ps = .node mr → GSubset mr.gtid execNew)
    (hc : i.catchUp = .caught) :
    ∀ f ∈ frozen i, GSubset (total f) execNew := by
  obtain ⟨h, ok, rfl⟩ := hp
  exact SwitchoverLemmas.promotion_safe cfg i h ok hs total execNew hpos hcaught hc

/-- the same in terms of what the servers report: a replica's position is its executed set JOINED with
its retrieved set (`MysqlGTIDSet.Update`, proved to be set union and to keep sets well-formed in
Lemmas/NormalizeLemmas.lean), so no well-formedness assumption about the joined set is left: every
transaction a frozen host has executed OR merely received is in the promoted node's executed set -/
theorem promotion_safe_joined (cfg : Cfg) (i : In) (s : Step) (hs : s ∈ performSwitchover cfg i) (hp : IsPromotion s)
    (executed retrieved : String → GtidSet) (execNew : GtidSet)
    (hwf : ∀ h, WF (executed h) ∧ WF (retrieved h))
    (hpos : ∀ ps, i.positions = some ps →
      (∀ p ∈ ps, p.gtid = update (executed p.host) (retrieved p.host)) ∧ ∀ f ∈ frozen i, ∃ p ∈ ps, p.host = f)
    (hcaught : i.catchUp = .caught → ∀ ps mr, i.positions = some ps → findMostRecent ps = .node mr → GSubset mr.gtid execNew)
    (hc : i.catchUp = .caught) :
    ∀ f ∈ frozen i, GSubset (executed f) execNew ∧ GSubset (retrieved f) execNew := by
  intro f hf
  have h := promotion_safe cfg i s hs hp (fun h => update (executed h) (retrieved h)) execNew
    (fun ps hps => ⟨fun p hp' => ⟨by
        rw [(hpos ps hps).1 p hp']
        exact GtidLemmas.wf_update _ _ (hwf p.host).1 (hwf p.host).2.2, (hpos ps hps).1 p hp'⟩,
      (hpos ps hps).2⟩) hcaught hc f hf
  have hub := GtidLemmas.update_upper_bound (executed f) (retrieved f)
  exact ⟨hub.1.trans h, hub.2.trans h⟩

/-- the only exception: the allowed lag of async mode during AUTOMATIC failover -/
theorem async_escape_only_if (cfg : Cfg) (sw : Manager.Switch) (delay : Option Int)
    (h : checkAsyncSwitchAllowed cfg sw delay = true) :
    cfg.async = true ∧ sw.causeAuto = true ∧ cfg.asyncAllowedLag > 0 ∧ ∃ d, delay = some d ∧ d * 1000000000 < cfg.asyncAllowedLag := by
  unfold checkAsyncSwitchAllowed at h
  split at h
  · rename_i hc
    simp only [Bool.and_eq_true, decide_eq_true_eq] at hc
    cases delay with
    | none => cases h
    | some d => exact ⟨hc.1.1, hc.1.2, hc.2, d, rfl, by simpa using h⟩
  · cases h

/-- split brain: if the frozen members' positions have no maximum, nothing is promoted (no writable,
no replication reset, no re-pointing) and the emergency marker is written -/
theorem splitbrain_aborts (cfg : Cfg) (i : In) (ps : List Pos)
    (hpos : i.positions = some ps) (hsb : findMostRecent ps = .splitBrain)
    (hreach : Step.positions true ∈ performSwitchover cfg i)
    (hwf : ∀ p ∈ ps, WF p.gtid) :
    (performSwitchover cfg i).getLast? = some .writeEmerge ∧
    ∀ s ∈ performSwitchover cfg i, ¬ IsPromotion s ∧ (∀ h ok, s ≠ .resetSlaveAll h ok) ∧ (∀ h t ok, s ≠ .changeMaster h t ok) := by
  -- CORRECTED after a counterexample: without `hwf` (sets as MySQL prints them: no empty interval) the first conjunct is
  -- false — one collected position with an empty interval does not contain itself, `findMostRecent` says split brain but
  -- the procedure stops earlier at "no suitable nodes to switch from" (`SwitchoverLemmas.splitbrain_aborts_counterexample`,
  -- kernel-checked).  The second conjunct needs neither `hwf` nor `hreach` (`splitbrain_never_promotes` below).
  refine ⟨SwitchoverLemmas.splitbrain_emerge_last cfg i ps hpos hsb hreach ?_, fun s hs => ?_⟩
  · rintro ⟨hl, _⟩
    match ps, hl with
    | [p], _ =>
      have hc : contain p.gtid p.gtid = true :=
        (GtidLemmas.contain_iff _ _ (hwf p (by simp)) (hwf p (by simp))).mpr (GtidLemmas.GSubset.refl _)
      simp [findMostRecent, scanMostRecent, detectSplitbrain, hc] at hsb
  · have hp := SwitchoverLemmas.splitbrain_phase hpos hsb s hs
    refine ⟨?_, ?_, ?_⟩
    · rintro ⟨h, ok, rfl⟩; exact hp.2 rfl
    · rintro h ok rfl; exact hp.2 rfl
    · rintro h t ok rfl; exact hp.1 rfl

/-- … whatever the sets look like: with positions that have no maximum nothing is promoted -/
theorem splitbrain_never_promotes (cfg : Cfg) (i : In) (ps : List Pos)
    (hpos : i.positions = some ps) (hsb : findMostRecent ps = .splitBrain) :
    ∀ s ∈ performSwitchover cfg i, (∀ h ok, s ≠ .setWritable h ok) ∧ (∀ h ok, s ≠ .resetSlaveAll h ok) ∧ (∀ h t ok, s ≠ .changeMaster h t ok) := by
  intro s hs
  have hp := SwitchoverLemmas.splitbrain_phase hpos hsb s hs
  refine ⟨?_, ?_, ?_⟩
  · rintro h ok rfl; exact hp.2 rfl
  · rintro h ok rfl; exact hp.2 rfl
  · rintro h t ok rfl; exact hp.1 rfl

/-- the emergency marker is written only on split brain -/
theorem emerge_only_on_splitbrain (cfg : Cfg) (i : In) (h : Step.writeEmerge ∈ performSwitchover cfg i) :
    ∃ ps, i.positions = some ps ∧ findMostRecent ps = .splitBrain := by
  have hsb := (SwitchoverLemmas.emerge_iff.mp h).2.2
  unfold SwitchoverLemmas.psOf at hsb
  cases hpos : i.positions with
  | none => rw [hpos] at hsb; cases hsb
  | some ps => exact ⟨ps, rfl, by rwa [hpos] at hsb⟩

/-- order: every freeze step precedes the first lock re-confirmation, which precedes the catch-up test,
which precedes the second re-confirmation, which precedes every promotion step -/
theorem promotion_order (cfg : Cfg) (i : In) (pre post : List Step) (h : String) (ok : Bool)
    (hsplit : performSwitchover cfg i = pre ++ Step.setWritable h ok :: post) :
    ∃ a b c d, pre = a ++ Step.lockCheck 1 true :: b ++ Step.catchUp i.catchUp :: c ++ Step.lockCheck 2 true :: d ∧
      (∀ s ∈ b ++ c ++ d, (∀ x o, s ≠ .freezeRO x o) ∧ (∀ x o, s ≠ .stopIO x o)) ∧
      Step.resetSlaveAll h true ∈ d := by
  obtain ⟨_, f, hpre, hf⟩ := SwitchoverLemmas.fin_split (x := .setWritable h ok) rfl hsplit
  obtain ⟨_, hreset, hh, _⟩ := SwitchoverLemmas.writable_reach (cfg := cfg) (i := i) (h := h) (ok := ok) (by rw [hsplit]; simp)
  rw [SwitchoverLemmas.goods_early] at hpre
  -- the final phase starts with the replication reset, so `f` does
  obtain ⟨f', rfl⟩ : ∃ f', f = .resetSlaveAll h true :: f' := by
    simp only [SwitchoverLemmas.pFin, SwitchoverLemmas.pReset, SwitchoverLemmas.run_cons, hreset, if_true,
      List.cons_append, ← hh] at hf
    cases f with
    | nil => cases hf
    | cons y f' => injection hf with h1 _; exact ⟨f', by rw [h1]⟩
  have hfin : ∀ s ∈ f', SwitchoverLemmas.InPhase 4 s := fun s hs =>
    (SwitchoverLemmas.pStages_phase i (SwitchoverLemmas.nmOf cfg i) (SwitchoverLemmas.mrOf i)).2.run s
      (by rw [hf]; simp [hs])
  refine ⟨SwitchoverLemmas.segA cfg i, SwitchoverLemmas.segB i (SwitchoverLemmas.nmOf cfg i) (SwitchoverLemmas.mrOf i), [],
    SwitchoverLemmas.segD i (SwitchoverLemmas.nmOf cfg i) (SwitchoverLemmas.mrOf i) ++ .resetSlaveAll h true :: f',
    by rw [hpre]; simp, fun s hm => ?_, by simp⟩
  -- `b` and `segD` are written out; what is left of `d` is of the final phase
  constructor
  all_goals
    rintro x o rfl
    simp [SwitchoverLemmas.segB, SwitchoverLemmas.segD] at hm
    simpa [SwitchoverLemmas.InPhase, SwitchoverLemmas.phase] using hfin _ hm

/-- a crash at any point (= any prefix of the step list) has promoted nothing unless all of the above
already happened: immediate from `promotion_needs`, which speaks about membership in the full list,
because a prefix's elements are elements of the full list -/
theorem crash_prefix_safe (cfg : Cfg) (i : In) (pre post : List Step) (s : Step)
    (hsplit : performSwitchover cfg i = pre ++ post) (hs : s ∈ pre) (hp : IsPromotion s) :
    Gen.SwitchHelper.CheckFailoverQuorum (sh cfg) i.active (frozen i).length = none ∧ i.lock1 = true ∧ i.lock2 = true ∧
    (i.catchUp = .caught ∨ i.catchUp = .asyncEscape) := by
  have hs' : s ∈ performSwitchover cfg i := by rw [hsplit]; exact List.mem_append_left _ hs
  obtain ⟨_, _, h3, h4, h5, _, h7⟩ := promotion_needs cfg i s hs' hp
  exact ⟨h3, h4, h5, h7⟩

/-- the promoted host is the requested target, or one of the frozen positions -/
theorem promoted_is_target_or_frozen (cfg : Cfg) (i : In) (h : String) (ok : Bool)
    (hs : Step.setWritable h ok ∈ performSwitchover cfg i) :
    (i.sw.to ≠ "" ∧ h = i.sw.to) ∨ (i.sw.to = "" ∧ ∃ ps p, i.positions = some ps ∧ p ∈ ps ∧ p.host = h ∧ (i.sw.from_ = "" ∨ h ≠ i.sw.from_)) := by
  obtain ⟨hr, _, hh, _⟩ := SwitchoverLemmas.writable_reach hs
  obtain ⟨ps, _, hpos, hps, _⟩ := hr.guards.positions
  rcases SwitchoverLemmas.nmOf_cases cfg i hr.guards.node hr.guards.pick hps with ⟨h1, h2⟩ | ⟨h1, h2, h3⟩
  · exact Or.inl ⟨h1, by rw [hh, h2]⟩
  · exact Or.inr ⟨h1, ps, _, hpos, h2, hh.symm, by rw [hh]; exact h3⟩

-- non-vacuity: a planned switchover in a healthy 3-node cluster promotes b
private def k : Key := ⟨"00000000-0000-0000-0000-000000000001", ""⟩
private def mst : NodeState := { pingOk := true, isMaster := true }
private def rep : NodeState := { pingOk := true, slave := some { state := .running, masterHost := "a" } }
private def i0 : In :=
  { cs := [("a", mst), ("b", rep), ("c", rep)], active := ["a", "b", "c"], sw := { to := "b" }, oldMaster := "a",
    ro := fun _ => true, io := fun _ => true,
    positions := some [⟨"a", [(k, [⟨1, 9⟩])], 99999999, 0⟩, ⟨"b", [(k, [⟨1, 9⟩])], 99999999, 0⟩, ⟨"c", [(k, [⟨1, 9⟩])], 99999999, 0⟩],
    cs2 := [("a", mst), ("b", rep), ("c", rep)], repoint := fun _ => true, oldStatus := .notReplica }
example : Step.setWritable "b" true ∈ performSwitchover ⟨true, 1, false, 0, 60⟩ i0 := by decide +kernel
example : (performSwitchover ⟨true, 1, false, 0, 60⟩ { i0 with ro := fun h => h == "a" }).getLast? = some (.quorumCheck 1 false) := by decide +kernel

end C01
