/-
C07 — resumability of a planned switchover on the world model, for every cluster size and every crash point.
Property theorems of C07 on the world model; `writers` and the lemmas are in MysyncProofs/Lemmas/SwitchWorldLemmas.lean.
Model: MysyncModel/App/SwitchWorld.lean (effects of the procedure's steps on servers and coordination keys; the
oracle inputs of a run are read off the world: the healed world in which the property promises completion).
-/
import MysyncModel.App.SwitchWorld
import MysyncProofs.Lemmas.SwitchWorldLemmas

namespace C07
open Switchover SwitchWorld

/-- a planned switchover to `t` in a converged cluster of any size -/
structure Planned (hosts : List String) (m t : String) : Prop where
  nodup : hosts.Nodup
  hm : m ∈ hosts
  ht : t ∈ hosts
  hne : t ≠ m

/-
CORRECTED STATEMENTS.  `planned_switchover_is_resumable` and `planned_switchover_completes` as first written (for
ANY `cfg` and ANY `t ∈ hosts`, without the hypotheses `ht0` and `hw`) are FALSE:

 (1) semi-sync with a NEGATIVE wait count: `GetFailoverQuorum = max (|l| − min (|l| / 2) w) 1 > |l|` for `w < 0`, so
     the quorum check fails with every host frozen; the run stops after the freeze and nobody is writable
     (`counterexample_negative_wait_count` below; in general `SwitchWorldLemmas.run_stalls`).  The hypothesis
     `hw : cfg.semiSync = true → 0 ≤ cfg.waitCount` is exactly what is needed (it is also necessary).
 (2) a server registered under the EMPTY name: `{ to := "" }` is the request that names no target, so the most recent
     host — the first of the list — is promoted instead (`counterexample_empty_name` below; in general
     `SwitchWorldLemmas.run_completes_unnamed`).  Hypothesis `ht0 : t ≠ ""`.

`never_two_writable` is true as first written (no extra hypothesis) and is proved unchanged.
-/

/-- RESUMABLE: whatever the cluster size, the configuration (with a wait count that is not negative) and the point at
which the first manager died (after any number `k` of its steps), the next manager's run of the pending request —
started from the world the dead manager left behind — ends with exactly one writable master, which is the requested
one and the recorded one, and every other server a read-only replica of it with replication running. -/
theorem planned_switchover_is_resumable (cfg : Cfg) (hosts : List String) (m t : String) (h : Planned hosts m t)
    (ht0 : t ≠ "") (hw : cfg.semiSync = true → 0 ≤ cfg.waitCount) (k : Nat) :
    let sw : Manager.Switch := { to := t }
    let w1 := applyAll (converged hosts m) ((runOf cfg (converged hosts m) sw).take k)
    let w2 := applyAll w1 (runOf cfg w1 sw)
    canonical w2 = true ∧ w2.master = t := by
  intro sw w1 w2
  have h2 := List.two_le_length_of_mem_ne h.ht h.hm h.hne
  have g0 := SwitchWorldLemmas.good_converged (hosts := hosts) h.hm
  obtain ⟨g1, _⟩ := SwitchWorldLemmas.run_prefix cfg g0 h.ht h2 (SwitchWorldLemmas.W1_converged hosts m) k
  exact SwitchWorldLemmas.run_completes cfg g1 h.ht h2 ht0 hw

/-- … and at no point of either run — the dead manager's prefix or any prefix of the successor's run — are two
servers writable (any configuration, any target) -/
theorem never_two_writable (cfg : Cfg) (hosts : List String) (m t : String) (h : Planned hosts m t) (k j : Nat) :
    let sw : Manager.Switch := { to := t }
    let w1 := applyAll (converged hosts m) ((runOf cfg (converged hosts m) sw).take k)
    (writers (applyAll w1 ((runOf cfg w1 sw).take j))).length ≤ 1 := by
  intro sw w1
  have h2 := List.two_le_length_of_mem_ne h.ht h.hm h.hne
  have g0 := SwitchWorldLemmas.good_converged (hosts := hosts) h.hm
  obtain ⟨g1, x, hx⟩ := SwitchWorldLemmas.run_prefix cfg g0 h.ht h2 (SwitchWorldLemmas.W1_converged hosts m) k
  obtain ⟨g2, y, hy⟩ := SwitchWorldLemmas.run_prefix cfg g1 h.ht h2 hx j
  exact SwitchWorldLemmas.W1_writers (by rw [g2.keys]; exact h.nodup) hy

/-- the uninterrupted run itself ends canonical (the case `k = 0` above: the successor starts from the converged world) -/
theorem planned_switchover_completes (cfg : Cfg) (hosts : List String) (m t : String) (h : Planned hosts m t)
    (ht0 : t ≠ "") (hw : cfg.semiSync = true → 0 ≤ cfg.waitCount) :
    let sw : Manager.Switch := { to := t }
    let w := applyAll (converged hosts m) (runOf cfg (converged hosts m) sw)
    canonical w = true ∧ w.master = t := by
  exact planned_switchover_is_resumable cfg hosts m t h ht0 hw 0

private def cfgNeg : Cfg := { semiSync := true, waitCount := -1, async := false, asyncAllowedLag := 0, priorityChoiceMaxLag := 60 }
private def cfgOne : Cfg := { semiSync := true, waitCount := 1, async := false, asyncAllowedLag := 0, priorityChoiceMaxLag := 60 }

/-- (1) semi-sync, wait count −1, three hosts: the run stops at the quorum check (3 frozen, 4 required) with
everybody read-only -/
theorem counterexample_negative_wait_count :
    Planned ["a", "b", "c"] "a" "b" ∧
    (runOf cfgNeg (converged ["a", "b", "c"] "a") { to := "b" }).getLast? = some (.quorumCheck 3 false) ∧
    canonical (applyAll (converged ["a", "b", "c"] "a") (runOf cfgNeg (converged ["a", "b", "c"] "a") { to := "b" })) = false :=
  ⟨⟨by decide, by decide, by decide, by decide⟩, by decide +kernel, by decide +kernel⟩

/-- (2) a server registered under the empty name as the target: the request names nobody, `"a"` (first in the list)
is promoted again -/
theorem counterexample_empty_name :
    Planned ["a", "", "c"] "a" "" ∧
    (applyAll (converged ["a", "", "c"] "a") (runOf cfgOne (converged ["a", "", "c"] "a") { to := "" })).master = "a" :=
  ⟨⟨by decide, by decide, by decide, by decide⟩, by decide +kernel⟩

-- non-vacuity: three servers, every crash point of the 25-step run
private def cfgX : Cfg := { semiSync := true, waitCount := 1, async := false, asyncAllowedLag := 0, priorityChoiceMaxLag := 60 }
example : (runOf cfgX (converged ["a", "b", "c"] "a") { to := "b" }).length = 25 := by decide +kernel
example : (List.range 26).all (fun k =>
    let w1 := applyAll (converged ["a", "b", "c"] "a") ((runOf cfgX (converged ["a", "b", "c"] "a") { to := "b" }).take k)
    let w2 := applyAll w1 (runOf cfgX w1 { to := "b" })
    canonical w2 && w2.master == "b") = true := by decide +kernel

end C07
