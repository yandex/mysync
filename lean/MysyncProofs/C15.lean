/-
C15 — Coordination data-plane contract, incl. ephemeral health records.
Property theorems of C15; lemmas in MysyncProofs/Lemmas/ZkPath.lean (keys), ZkServer.lean (the tree, the primitives),
ZkOps.lean (running the programs, `makePath`).
Model: MysyncModel/Dcs/Zk.lean — `zkDCS`'s operations as programs over the ZooKeeper primitives.
The theorems about whole operations are stated for an operation that runs without another client in
between (`runSeq`); what holds under ANY interleaving is stated on the server steps themselves
(`owner_never_changes`, `wf_preserved`; that ephemeral entries belong to live sessions is the third clause of
`WFTree`) and, for the non-atomic `set`, in `set_lost_update_detected`.
-/
import MysyncModel.Dcs.Zk
import MysyncProofs.Lemmas.ZkPath
import MysyncProofs.Lemmas.ZkOps

namespace C15
open Zk

/-- well-formed tree: one entry per key, every entry's parent exists, ephemeral entries have no children
and belong to a live session -/
def WFTree (s : Server) : Prop :=
  (s.nodes.map (·.1)).Nodup ∧
  (∀ p n, (p, n) ∈ s.nodes → p ≠ [] ∧ s.has p.dropLast = true) ∧
  (∀ p n, (p, n) ∈ s.nodes → n.owner ≠ 0 → s.childrenOf p = [] ∧ n.owner ∈ s.live)

/-! ### keys -/

-- ORIGINAL STATEMENT (false):
--   theorem path_normal_form (ns p : List Char) (hns : segs ns ≠ []) :
--       buildFullPathChars ns p = spell (segs ns ++ segs p)
-- Counterexample: a namespace without leading separator, ns = "abc", p = "xyz": the key is "abc/xyz",
-- the canonical spelling is "/abc/xyz" (checked by `decide` below).  `NewZookeeper` refuses such a namespace
-- ("zookeeper namespace should start with /"), so the missing hypothesis is exactly the constructor's check.
-- (With `hlead`, `hns` is no longer needed for the equation; it is kept because the constructor also refuses
-- the empty namespace.  `ZkLemmas.norm_eq` gives the key for an arbitrary namespace.)
example : segs "abc".toList ≠ [] ∧
    buildFullPathChars "abc".toList "xyz".toList ≠ spell (segs "abc".toList ++ segs "xyz".toList) := by decide

/-- the key sent to the server depends only on the non-empty pieces of namespace and path: spellings that
differ only by redundant slashes give the same key, and the key is in canonical spelling -/
theorem path_normal_form (ns p : List Char) (hns : segs ns ≠ []) (hlead : ns.head? = some sep) :
    buildFullPathChars ns p = spell (segs ns ++ segs p) := by
  have _ := hns
  have hl : (ns ++ sep :: p).head? = some sep := by rw [List.head?_append, hlead]; rfl
  rw [ZkLemmas.buildFullPathChars_eq, ZkLemmas.norm_eq, if_pos hl, ZkLemmas.segs_append_sep]

theorem same_segments_same_key (ns p q : List Char) (hns : segs ns ≠ []) (h : segs p = segs q) :
    buildFullPathChars ns p = buildFullPathChars ns q := by
  have _ := hns
  have hh : (ns ++ sep :: p).head? = (ns ++ sep :: q).head? := by cases ns <;> rfl
  rw [ZkLemmas.buildFullPathChars_eq, ZkLemmas.buildFullPathChars_eq, ZkLemmas.norm_eq, ZkLemmas.norm_eq,
    ZkLemmas.segs_append_sep, ZkLemmas.segs_append_sep, h, hh]

/-- canonical spelling round-trips: no empty piece, no doubled or trailing separator is ever sent -/
theorem key_segments (ns p : List Char) (hns : segs ns ≠ []) :
    segs (buildFullPathChars ns p) = segs ns ++ segs p := by
  have _ := hns
  rw [ZkLemmas.buildFullPathChars_eq, ZkLemmas.segs_norm, ZkLemmas.segs_append_sep]

/-! ### invariants of the server, under any interleaving -/

theorem wf_preserved (s : Server) (sid : Sid) (pr : Prim) (h : WFTree s) (hl : sid ∈ s.live) (h0 : sid ≠ 0) :
    WFTree (s.step sid pr).1 := by
  have _ := h0
  exact (ZkLemmas.step_upd s sid pr).wf h (fun _ => hl)

-- ORIGINAL STATEMENT (false):
--   theorem wf_expire (s : Server) (sid : Sid) (h : WFTree s) : WFTree (s.expire sid)
-- Counterexample: sid = 0 is not a session but the marker 'persistent'; "expiring" it removes every plain
-- entry and leaves the ephemeral ones without parents: `sample.expire 0` keeps only t/health/h1 (see the
-- `example` after `sample` below).  Missing hypothesis: `sid ≠ 0`.
theorem wf_expire (s : Server) (sid : Sid) (h : WFTree s) (h0 : sid ≠ 0) : WFTree (s.expire sid) := by
  have hw : ZkLemmas.WF s := h
  have key : ∀ x m, (s.expire sid).find? x = some m ↔ s.find? x = some m ∧ m.owner ≠ sid := by
    intro x m; rw [ZkLemmas.find?_expire s sid x hw.nd]; simp
  refine ZkLemmas.wf_transfer hw ((List.filter_sublist.map _).nodup hw.nd)
    (fun x m' hx => Or.inl ⟨m', ((key x m').1 hx).1, rfl⟩) (fun y my hy hpar => ?_) (fun x m' hx hlive => ?_)
  · -- the parent of a surviving entry is plain, so it survives
    rcases (hw.entry ((key y my).1 hy).1).parent with hr | ⟨m, hm, hm0⟩
    · rw [hr, hw.find?_nil] at hpar; cases hpar
    · rw [(key _ m).2 ⟨hm, fun e => h0 (e.symm.trans hm0)⟩]; rfl
  · simp only [Server.expire, List.mem_filter, bne_iff_ne]
    exact ⟨hlive, ((key x m').1 hx).2⟩

theorem wf_open (s : Server) (sid : Sid) (h : WFTree s) : WFTree (s.openSession sid) :=
  ZkLemmas.wf_transfer (s' := s.openSession sid) h h.1 (fun _ m' hx => Or.inl ⟨m', hx, rfl⟩) (fun _ _ _ hy => hy)
    (fun _ _ _ hlive => List.mem_cons_of_mem _ hlive)

/-- a key is never silently turned into an ephemeral one (nor back): no primitive changes the owner of
an entry that stays -/
theorem owner_never_changes (s : Server) (sid : Sid) (pr : Prim) (p : Path) (n n' : ZNode) (h : WFTree s)
    (h1 : s.find? p = some n) (h2 : (s.step sid pr).1.find? p = some n') (hnd : ∀ v, pr ≠ .delete p v) :
    n'.owner = n.owner := by
  -- neither is needed: `Upd.owner` holds of any tree, and after a `delete p` there is no `n'` (`h2`)
  have _ := h
  have _ := hnd
  exact (ZkLemmas.step_upd s sid pr).owner h1 h2

/-- ephemeral keys exist only while their session lives: after the session ended nothing of it is left,
everything else is untouched -/
theorem ephemeral_lifetime (s : Server) (sid : Sid) (p : Path) (h : WFTree s) :
    (s.expire sid).find? p = (match s.find? p with | some n => if n.owner = sid then none else some n | none => none) ∧
    sid ∉ (s.expire sid).live := by
  refine ⟨?_, by simp [Server.expire]⟩
  rw [ZkLemmas.find?_expire s sid p h.1]
  cases s.find? p with
  | none => rfl
  | some n => by_cases ho : n.owner = sid <;> simp [Option.filter, ho]

/-- … and a later session can recreate the key -/
theorem ephemeral_recreate (s : Server) (sid sid' : Sid) (p : Path) (n : ZNode) (d : String) (h : WFTree s)
    (hn : s.find? p = some n) (ho : n.owner = sid) (h0 : sid ≠ 0) (hne : sid' ≠ sid) :
    ∃ s', ((s.expire sid).step sid' (.create p d true)) = (s', .created) ∧
      s'.find? p = some { data := d, version := 0, owner := sid' } := by
  have hw : ZkLemmas.WF s := h
  have _ := hne
  obtain ⟨hp, hpar, _⟩ := hw.entry hn
  have hstep := ZkLemmas.step_create_ok (s := s.expire sid) sid' d true hp
    (by rw [ZkLemmas.find?_expire s sid p h.1, hn]; simp [Option.filter, ho])
    (hpar.imp id fun ⟨m, hm, hm0⟩ => ⟨m, by
      rw [ZkLemmas.find?_expire s sid _ h.1, hm]
      simp [Option.filter, hm0, Ne.symm h0], hm0⟩)
  exact ⟨_, hstep, ZkLemmas.find?_put_self _ _ _⟩

/-! ### whole operations -/

/-- `create` fails with 'exists' exactly when the key exists, and then changes nothing -/
-- ORIGINAL STATEMENT (false):
--   theorem create_exists_iff (s s' : Server) (sid : Sid) (p : Path) (d : String) (eph : Bool) (r : Res)
--       (fuel : Nat) (hp : p ≠ []) (h : runSeq s sid (opCreate p d eph) fuel = some (s', r)) :
--       (r = .exists_ ↔ (s.find? p).isSome = true) ∧ (r ≠ .ok → s' = s)
-- Counterexample: a tree that is not well-formed, nodes = [(["a","b"], _)] without the parent ["a"]:
-- `create ["a","b"]` answers `noNode` (the server looks at the parent first) although the key exists
-- (see the `example` after `sample` below).  Missing hypothesis: `WFTree s`.
theorem create_exists_iff (s s' : Server) (sid : Sid) (p : Path) (d : String) (eph : Bool) (r : Res) (fuel : Nat)
    (hw : WFTree s) (hp : p ≠ []) (h : runSeq s sid (opCreate p d eph) fuel = some (s', r)) :
    (r = .exists_ ↔ (s.find? p).isSome = true) ∧ (r ≠ .ok → s' = s) := by
  have hw' : ZkLemmas.WF s := hw
  obtain ⟨rfl, rfl⟩ := ZkLemmas.opCreate_run h
  generalize hx : s.step sid (.create p d eph) = x
  cases ZkLemmas.step_created hx with
  | ok _ hnone => simp [hnone]
  | exists_ hq => simpa using hq.resolve_left hp
  | noParent hd hpar =>
    -- the parent is missing, so (the tree being well-formed) is the key
    have : ¬ (s.find? p).isSome = true := fun hsome => by
      obtain ⟨n, hn⟩ := Option.isSome_iff_exists.1 hsome
      rcases (hw'.entry hn).parent with h' | ⟨m, hm, _⟩
      · exact hd h'
      · rw [hm] at hpar; cases hpar
    simpa [errOf] using this
  | ephParent hnone => simp [hnone, errOf]

theorem create_ok (s s' : Server) (sid : Sid) (p : Path) (d : String) (eph : Bool) (fuel : Nat) (hw : WFTree s)
    (h : runSeq s sid (opCreate p d eph) fuel = some (s', .ok)) :
    s'.find? p = some { data := d, version := 0, owner := if eph then sid else 0 } ∧ ∀ q, q ≠ p → s'.find? q = s.find? q := by
  have _ := hw
  obtain ⟨rfl, hr⟩ := ZkLemmas.opCreate_run h
  generalize hx : s.step sid (.create p d eph) = x at hr ⊢
  cases ZkLemmas.step_created hx with
  | ok => exact ⟨ZkLemmas.find?_put_self _ _ _, fun q hq => ZkLemmas.find?_put_other _ _ _ _ hq⟩
  | exists_ | noParent | ephParent => cases hr

/-- `set` on an existing key overwrites (and counts the change), whoever owns it … -/
theorem set_overwrites (s : Server) (sid : Sid) (p : Path) (d : String) (eph : Bool) (n : ZNode) (hw : WFTree s)
    (hn : s.find? p = some n) (hk : ¬ (eph = true ∧ n.owner = 0)) :
    ∃ s', runSeq s sid (opSet p d eph) 2 = some (s', .ok) ∧
      s'.find? p = some { n with data := d, version := n.version + 1 } ∧ ∀ q, q ≠ p → s'.find? q = s.find? q := by
  have _ := hw
  have hk' : (eph && n.owner == 0) = false := by simpa using hk
  refine ⟨s.put p { n with data := d, version := n.version + 1 }, ?_, ZkLemmas.find?_put_self _ _ _,
    fun q hq => ZkLemmas.find?_put_other _ _ _ _ hq⟩
  unfold opSet
  rw [ZkLemmas.runSeq_call, ZkLemmas.step_get_some sid hn]
  simp only [hk', Bool.false_eq_true, if_false]
  rw [ZkLemmas.runSeq_call, ZkLemmas.step_set_ok sid d hn]
  simp only [ZkLemmas.runSeq_ret]

/-- … except that a plain key is never turned into an ephemeral one: the request is refused, nothing changes -/
theorem set_never_makes_ephemeral (s : Server) (sid : Sid) (p : Path) (d : String) (n : ZNode)
    (hn : s.find? p = some n) (ho : n.owner = 0) :
    runSeq s sid (opSet p d true) 2 = some (s, .notEphemeral) := by
  unfold opSet
  rw [ZkLemmas.runSeq_call, ZkLemmas.step_get_some sid hn, ho]
  rfl

/-- `set` on a missing key creates every missing ancestor (plain, empty) and the key itself; existing
entries are untouched -/
-- ORIGINAL STATEMENT (false):
--   theorem set_creates_parents (s : Server) (sid : Sid) (p : Path) (d : String) (eph : Bool) (hw : WFTree s)
--       (hp : p ≠ []) (hn : s.find? p = none)
--       (hanc : ∀ k, k < p.length → ∀ n, s.find? (p.take k) = some n → n.owner = 0) :
--       ∃ s', runSeq s sid (opSet p d eph) (2 * p.length + 3) = some (s', .ok) ∧ … ∧ WFTree s'
-- Counterexample: the caller's session is not live: s = {nodes := [], live := []}, sid = 5, p = ["a"],
-- eph = true gives the entry (["a"], owner 5) with no live session 5, so `WFTree s'` fails (every other
-- conjunct holds).  `Server.step` is "on behalf of live session sid"; missing hypothesis: `sid ∈ s.live`
-- (see the `example` after `sample` below).
theorem set_creates_parents (s : Server) (sid : Sid) (p : Path) (d : String) (eph : Bool) (hw : WFTree s)
    (hl : sid ∈ s.live) (hp : p ≠ []) (hn : s.find? p = none)
    (hanc : ∀ k, k < p.length → ∀ n, s.find? (p.take k) = some n → n.owner = 0) :
    ∃ s', runSeq s sid (opSet p d eph) (2 * p.length + 3) = some (s', .ok) ∧
      s'.find? p = some { data := d, version := 0, owner := if eph then sid else 0 } ∧
      (∀ k, 0 < k → k < p.length → (s'.find? (p.take k)).isSome = true) ∧
      (∀ q n, s.find? q = some n → s'.find? q = some n) ∧ WFTree s' := by
  have hlen : p.dropLast.length + 1 = p.length := by
    rw [List.length_dropLast]; have := List.length_pos_iff.2 hp; omega
  have hanc' : ∀ x, x <+: p.dropLast → ∀ n, s.find? x = some n → n.owner = 0 := fun x hx n hxn => by
    have := hx.length_le
    rw [List.prefix_iff_eq_take.1 (hx.trans (List.dropLast_prefix p))] at hxn
    exact hanc _ (by omega) n hxn
  obtain ⟨s2, hrun, hfind2⟩ := ZkLemmas.makePath_run s sid p.dropLast hw hanc'
  have hne : ∀ x, x <+: p.dropLast → x ≠ p := fun x hx e => by have := hx.length_le; rw [e] at this; omega
  have hp2 : s2.find? p = none := by
    rw [hfind2, hn, if_neg fun h => hne p (ZkLemmas.mem_below_nil.1 h).2 rfl]; rfl
  have hpre2 : ∀ x, x ≠ [] → x <+: p.dropLast → ∃ m, s2.find? x = some m ∧ m.owner = 0 := by
    intro x hx0 hx
    rw [hfind2, if_pos (ZkLemmas.mem_below_nil.2 ⟨hx0, hx⟩)]
    cases hf : s.find? x with
    | some m => exact ⟨m, rfl, hanc' x hx m hf⟩
    | none => exact ⟨ZkLemmas.plain, rfl, rfl⟩
  have hstep := ZkLemmas.step_create_ok (s := s2) sid d eph hp hp2
    ((Decidable.em (p.dropLast = [])).imp id fun hL => hpre2 _ hL List.prefix_rfl)
  have hfull : runSeq s sid (opSet p d eph) (2 * p.length + 3) =
      some (s2.put p { data := d, version := 0, owner := if eph then sid else 0 }, .ok) := by
    -- fuel: `makePath` of the parent (2·length + 1), the `create`, and the `get` that found nothing
    refine ZkLemmas.runSeq_mono (fuel := (2 * p.dropLast.length + 1 + 1) + 1) ?_ (by omega)
    rw [opSet, ZkLemmas.runSeq_call, ZkLemmas.step_get_none sid hp hn]
    exact ZkLemmas.runSeq_bindErr (fuel' := 1) (by rw [ZkLemmas.runSeq_call, hstep, ZkLemmas.runSeq_ret]) hrun
  refine ⟨_, hfull, ZkLemmas.find?_put_self _ _ _, fun k hk0 hkl => ?_, fun x n hx => ?_,
    (ZkLemmas.runSeq_wf hfull hw (fun _ => hl)).1⟩
  · have hk : p.take k <+: p.dropLast := by rw [List.dropLast_eq_take]; exact List.take_prefix_take_left (by omega)
    obtain ⟨m, hm, _⟩ := hpre2 (p.take k) (by simp [hp]; omega) hk
    rw [ZkLemmas.find?_put_other _ _ _ _ (hne _ hk), hm]
    rfl
  · rw [ZkLemmas.find?_put_other _ _ _ _ (fun h => by rw [h, hn] at hx; cases hx), hfind2, hx]
    rfl

/-- a concurrent writer is detected, never silently overwritten: if the entry changed between `set`'s
read and its write, the write fails with `badVersion` -/
theorem set_lost_update_detected (s : Server) (sid : Sid) (p : Path) (d : String) (n : ZNode) (ver : Int)
    (hn : s.find? p = some n) (hv : n.version ≠ ver) (hver : ver ≠ -1) :
    s.step sid (.set p d ver) = (s, .err .badVersion) := by
  simp [Server.step, hn, hver, Ne.symm hv]

/-- `get` tells a missing key from an unparsable one -/
theorem get_distinguishes (valid : String → Bool) (s : Server) (sid : Sid) (p : Path) (hp : p ≠ []) :
    runSeq s sid (opGet valid p) 1 =
      some (s, match s.find? p with
               | none => .notFound
               | some n => if valid n.data then .val n.data else .malformed) := by
  unfold opGet
  rw [ZkLemmas.runSeq_call]
  cases hn : s.find? p with
  | none => rw [ZkLemmas.step_get_none sid hp hn]; simp only [ZkLemmas.runSeq_ret]
  | some n =>
    rw [ZkLemmas.step_get_some sid hn]
    by_cases hv : valid n.data = true <;> simp [hv, ZkLemmas.runSeq_ret]

/-- `delete` is idempotent: a missing key is fine, a leaf is removed, and a second delete is fine again -/
theorem delete_missing_ok (s : Server) (sid : Sid) (p : Path) (hp : p ≠ []) (hn : s.find? p = none) :
    runSeq s sid (opDelete p) 2 = some (s, .ok) := by
  unfold opDelete
  rw [ZkLemmas.runSeq_call, ZkLemmas.step_get_none sid hp hn]
  rfl

theorem delete_leaf (s : Server) (sid : Sid) (p : Path) (n : ZNode) (hw : WFTree s)
    (hn : s.find? p = some n) (hc : s.childrenOf p = []) :
    ∃ s', runSeq s sid (opDelete p) 2 = some (s', .ok) ∧ s'.find? p = none ∧ (∀ q, q ≠ p → s'.find? q = s.find? q) ∧
      runSeq s' sid (opDelete p) 2 = some (s', .ok) := by
  have hw' : ZkLemmas.WF s := hw
  have hp : p ≠ [] := (hw'.entry hn).ne_nil
  refine ⟨s.erase p, ?_, ZkLemmas.find?_erase_self s p, fun q hq => ZkLemmas.find?_erase_other s p q hq,
    delete_missing_ok _ sid p hp (ZkLemmas.find?_erase_self s p)⟩
  unfold opDelete
  rw [ZkLemmas.runSeq_call, ZkLemmas.step_get_some sid hn]
  simp only
  rw [ZkLemmas.runSeq_call, ZkLemmas.step_delete_ok sid hn hc]
  simp only [ZkLemmas.runSeq_ret]

/-- listing the children of a missing key reports 'not found' -/
theorem children_contract (s : Server) (sid : Sid) (p : Path) :
    runSeq s sid (opChildren p) 1 = some (s, if s.has p then .children (s.childrenOf p) else .notFound) := by
  unfold opChildren
  rw [ZkLemmas.runSeq_call]
  by_cases hh : s.has p = true <;> simp [Server.step, hh, ZkLemmas.runSeq_ret]

-- non-vacuity: a well-formed non-trivial tree, and the operations on it
def sample : Server :=
  { nodes := [(["t"], { data := "" }), (["t", "a"], { data := "1" }), (["t", "health"], { data := "" }),
              (["t", "health", "h1"], { data := "{}", owner := 7 })], live := [7, 8] }

example : (sample.expire 7).find? ["t", "health", "h1"] = none := by decide
example : (runSeq sample 8 (opSet ["t", "x", "y", "z"] "5" false) 11).map (·.2) = some .ok := by decide
example : (runSeq sample 8 (opSet ["t", "a"] "5" true) 2).map (·.2) = some .notEphemeral := by decide
example : String.ofList (buildFullPathChars "//abc//def/".toList "////xyz////".toList) = "/abc/def/xyz" := by decide

-- non-vacuity of the well-formedness hypothesis
example : WFTree sample :=
  ⟨by decide,
   fun p n hp => (by decide : ∀ x ∈ sample.nodes, x.1 ≠ [] ∧ sample.has x.1.dropLast = true) (p, n) hp,
   fun p n hp => (by decide : ∀ x ∈ sample.nodes, x.2.owner ≠ 0 →
     sample.childrenOf x.1 = [] ∧ x.2.owner ∈ sample.live) (p, n) hp⟩

-- the counterexamples to the original statements of `wf_expire`, `create_exists_iff`, `set_creates_parents`
example : ¬ WFTree (sample.expire 0) := by
  intro h
  have := (h.2.1 ["t", "health", "h1"] { data := "{}", owner := 7 } (by decide)).2
  exact absurd this (by decide)

example : let bad : Server := { nodes := [(["a", "b"], { data := "" })], live := [1] }
    runSeq bad 1 (opCreate ["a", "b"] "x" false) 1 = some (bad, .err .noNode) ∧ (bad.find? ["a", "b"]).isSome = true := by
  decide

example : let emp : Server := { nodes := [], live := [] }
    WFTree emp ∧ ∃ s', runSeq emp 5 (opSet ["a"] "x" true) 5 = some (s', .ok) ∧ ¬ WFTree s' := by
  refine ⟨⟨by decide, (by intro p n hp; cases hp), (by intro p n hp; cases hp)⟩, _, rfl, ?_⟩
  intro h
  have := (h.2.2 ["a"] { data := "x", owner := 5 } (by decide) (by decide)).2
  exact absurd this (by decide)

end C15
