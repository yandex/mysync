/-
C02 — Single-fault tolerance: no acknowledged loss, one writable master.
Property theorems of C02 (no lemma file of its own: it rests on C12).

What is PROVED here is the safety argument that composes the component theorems:
  C04 (a),(b): an acknowledgement under the published list `l` comes from `req l` replicas that are all IN `l`;
  C12        : `quorum l + req l > |l| − 1`, so any frozen quorum meets the acknowledging set or holds the old master;
  C01        : a node is made writable only after it executed everything any frozen node had received.
⊢ every acknowledged transaction is executed by the promoted node (`no_acked_loss_at_promotion`), for any
list size, any counts, any sets.  It is stated for a list that does not change between the acknowledgement
and the promotion; a list change in between is itself governed by C04 (and its known findings).

What is NOT proved: that the cluster RETURNS to the canonical state after the fault heals (fairness of the
real loops, time-outs, the order of the daemons' iterations).  That half — and the end-to-end statement with
real timing — is decided on the real daemons by the cluster simulation (harness/app/sim_test.go), whose
verdict predicates are the definitions below (`Cluster.canonical`, `Cluster.ackedPreserved`).  Level: PARTIAL.
-/
import MysyncModel.Proto.Cluster
import MysyncProofs.C12

namespace C02
open Gen.SwitchHelper C12

/-- No acknowledged loss at a promotion.  `R` = the replicas of the published list `l`, `m ∉ R` the old master,
`A ⊆ R` the replicas that acknowledged transaction `t` (C04: all in the list, at least `req l` of them), `F` the
frozen set that passed the quorum re-count (C01/C12), `recv h` what host `h` had received when it was frozen
(for the old master: what it had executed), `exec' new` what the promoted node has executed when it is made
writable (C01: it caught up with the most recent frozen node, which contains every frozen node's position). -/
theorem no_acked_loss_at_promotion {α τ : Type} [DecidableEq α]
    (sh : SwitchHelper) (l : List String) (R A F : Finset α) (m new : α) (hw : 0 ≤ w sh)
    (recv : α → τ → Prop) (exec' : α → τ → Prop) (t : τ)
    (hR : (R.card : Int) = replicas l) (hA : A ⊆ R) (hF : F ⊆ insert m R)
    (hreq : req sh l ≤ A.card)                       -- C04 (b): the master waited for `req l` acknowledgements
    (hack : ∀ a ∈ A, recv a t)                        -- … which means these replicas received `t`
    (hm : recv m t)                                   -- the master wrote it before asking
    (hq : quorum sh l ≤ F.card)                       -- C01: frozen quorum, re-counted against `l`
    (hcaught : ∀ f ∈ F, ∀ x, recv f x → exec' new x)  -- C01: promoted only after catching up with every frozen node
    : exec' new t := by
  rcases failover_meets_ackers sh l R A F m hw hR hA hF hreq hq with h | ⟨f, hf⟩
  · exact hcaught m h t hm
  · have h2 := Finset.mem_inter.mp hf
    exact hcaught f h2.1 t (hack f h2.2)

private theorem canonical_all {recorded : String} {srvs : List Cluster.Srv} (h : Cluster.canonical recorded srvs = true)
    (s : Cluster.Srv) (hs : s ∈ srvs) :
    (s.host == recorded || !s.alive || !s.ha || (s.readOnly && s.isReplica && s.source == recorded)) = true := by
  unfold Cluster.canonical at h
  split at h
  · cases h
  · exact List.all_eq_true.mp (Bool.and_eq_true_iff.mp h).2 s hs

/-- the verdict predicate means what the property says: in a canonical state the recorded master is the only
writable reachable HA node -/
theorem canonical_single_writer (recorded : String) (srvs : List Cluster.Srv) (h : Cluster.canonical recorded srvs = true)
    (s : Cluster.Srv) (hs : s ∈ srvs) (ha : s.ha = true) (hal : s.alive = true) (hw : s.readOnly = false) :
    s.host = recorded := by
  simpa [ha, hal, hw] using canonical_all h s hs

/-- … and every reachable HA node other than it is a read-only replica of it -/
theorem canonical_replicas_follow (recorded : String) (srvs : List Cluster.Srv) (h : Cluster.canonical recorded srvs = true)
    (s : Cluster.Srv) (hs : s ∈ srvs) (ha : s.ha = true) (hal : s.alive = true) (hne : s.host ≠ recorded) :
    s.readOnly = true ∧ s.isReplica = true ∧ s.source = recorded := by
  simpa [ha, hal, hne, and_assoc] using canonical_all h s hs

/-- the budget cannot be dropped: with TWO faults the same argument fails — a list of three with one
acknowledgement demanded, the acknowledging replica lost AND the master lost: the remaining node alone is not a
quorum of the published list (so mysync refuses), and if it were promoted the transaction would be gone -/
theorem two_faults_exceed_quorum :
    quorum ⟨0, 1, true⟩ ["m", "a", "b"] = 2 ∧ req ⟨0, 1, true⟩ ["m", "a", "b"] = 1 ∧
    CheckFailoverQuorum ⟨0, 1, true⟩ ["m", "a", "b"] 1 ≠ none := by
  decide

-- non-vacuity of the verdict predicates
example : Cluster.canonical "h2" [⟨"h1", true, true, true, "h2", "", true⟩, ⟨"h2", true, false, false, "", "", true⟩,
    ⟨"h3", false, false, false, "", "", true⟩] = true := by decide

end C02
