/-
C19 — Replication optimisation never leaves untracked relaxed durability.
Property theorems of C19; lemmas in MysyncProofs/Lemmas/OptimizationTrace.lean, OptimizationWorld.lean
(and SwitchoverStages.lean, SwitchoverLemmas.lean for the switchover clause).
Model: MysyncModel/App/Optimization.lean (`Syncer.Sync` as a sequential procedure with a failure
oracle over a registry+settings world; `Controller.DisableAll`; `isOptimizedDuringWaiting`).
The switchover clause ("never promoted while relaxed or registered") was FALSE on the pinned tree and
was repaired by a `fix:` commit (known_findings.json); it is enforced by the promotion monitor of the
C01 harness on ground-truth snapshots, and by `Switchover`'s ordering theorem below.
-/
import MysyncModel.App.Optimization
import MysyncModel.App.Switchover
import MysyncProofs.Lemmas.OptimizationTrace
import MysyncProofs.Lemmas.OptimizationWorld
import MysyncProofs.Lemmas.SwitchoverLemmas

namespace C19
open NS Optimization OptimizationLemmas

/-- the world agrees with what the syncer was told: every registered host's real settings are the
ones in its view record, the registry is the list of hosts, names are distinct, all are cluster hosts -/
def Consistent (i : SyncIn) (w : World) : Prop :=
  w.registered = i.hosts.map (·.name) ∧ (i.hosts.map (·.name)).Nodup ∧
  (∀ h ∈ i.hosts, h.hasNode = true ∧ h.settings = some (w.get h.name) ∧ i.current h.name = w.get h.name ∧ h.enabled.isSome)

/-- after a fault-free sync at most one registered host is left with settings different from the master's -/
theorem sync_at_most_one (cfg : Cfg) (i : SyncIn) (w : World) (t : List Ev)
    (hc : Consistent i w) (hok : ∀ c, i.fails c = false) (hs : sync cfg i = .trace t) :
    ((w.run i.masterRs t).relaxed i.masterRs (w.run i.masterRs t).registered).length ≤ 1 := by
  obtain ⟨hreg, hnd, hh⟩ := hc
  have hmem := mem_trace_nofail cfg i t hok hs
  have hcall : ∀ e ∈ t, e.call ∈ plan cfg i := fun e he =>
    runCalls_mem _ _ e (trace_eq_run cfg i t (Or.inl hs) ▸ he)
  have hnr : NoReg t := fun e he x hx => by
    rcases plan_calls cfg i _ (hcall e he) with ⟨_, h⟩ | ⟨_, h⟩ | h | h <;> rw [hx] at h <;> cases h
  have hsub := run_registered_sublist w i.masterRs t hnr
  have key : ∀ x ∈ (w.run i.masterRs t).registered, x ≠ special cfg i → (w.run i.masterRs t).get x = i.masterRs := by
    intro x hx hne
    obtain ⟨r, hr, rfl⟩ := List.mem_map.1 (hreg ▸ hsub.subset hx)
    obtain ⟨hn, hset, _, hen⟩ := hh r hr
    have hnorelax : (⟨.relax r.name, true⟩ : Ev) ∉ t := fun hm => by
      rcases plan_calls cfg i _ (hcall _ hm) with ⟨_, h⟩ | ⟨_, h⟩ | h | h
      · cases h
      · cases h
      · cases h
      · exact hne (Call.relax.inj h)
    -- a host that `disableNodes` dropped is not registered any more
    have hnd' : r ∉ toDisable cfg i := fun hm =>
      run_deregistered w i.masterRs t r.name hnr
        ((hmem _).2 ⟨rfl, Or.inr (Or.inl ((mem_deregCalls _ _).2 ⟨r, hm, rfl⟩))⟩) hx
    obtain ⟨c, hc⟩ := classify_cls cfg i.masterRs r hen (by rw [hset]; rfl)
    cases c with
    | malfunctioning => exact absurd ((mem_toDisable _ _ _).2 ⟨hr, Or.inr hc⟩) hnd'
    | optimized => exact absurd ((mem_toDisable _ _ _).2 ⟨hr, Or.inl hc⟩) hnd'
    | disabled =>
      -- it had the master's settings, and these are left alone or restored
      have hm : w.get r.name = i.masterRs := Option.some.inj (hset.symm.trans (classify_disabled cfg i.masterRs r hc))
      exact (get_run_no_relax w i.masterRs t r.name hnorelax).elim id (·.trans hm)
    | optimizing =>
      -- it is not the first of its class, so it is restored
      rcases special_or_tail cfg i r ((mem_ofClass _ _ _ _).2 ⟨hr, hc⟩) with h | h
      · exact absurd h hne
      · exact get_run_restored w i.masterRs t r.name
          ((hmem _).2 ⟨rfl, Or.inr (Or.inr (Or.inl ((mem_restoreCalls _ _).2 ⟨r, h, hn, rfl⟩)))⟩) hnorelax
  apply List.Nodup.length_le_one_of_forall_eq (m := special cfg i) ((hsub.nodup (hreg ▸ hnd)).filter _)
  intro x hx
  simp only [List.mem_filter, Bool.not_eq_true'] at hx
  exact Decidable.byContradiction fun hne =>
    Bool.false_ne_true (hx.2.symm.trans ((ReplSettingsSpec.equal_iff_eq _ _).2 (key x hx.1 hne)))

/-- a registered host is dropped only after its settings were restored, or once it is no longer a
cluster host — on every trace, with any call failing anywhere (a crash is a prefix, and the
statement is about positions in the trace) -/
theorem restore_before_deregister (cfg : Cfg) (i : SyncIn) (t : List Ev) (pre post : List Ev) (h : String) (ok : Bool)
    (hs : sync cfg i = .trace t ∨ sync cfg i = .panic t) (hsplit : t = pre ++ ⟨.deregister h, ok⟩ :: post) :
    (⟨.restore h, true⟩ : Ev) ∈ pre ∨ ∃ r ∈ i.hosts, r.name = h ∧ r.hasNode = false := by
  have ht := trace_eq_run cfg i t hs
  rw [hsplit] at ht
  obtain ⟨a, rest, hcs, rfl⟩ := runCalls_before _ _ _ _ _ ht.symm
  rcases plan_eq cfg i with ⟨_, hp⟩ | hp <;> rw [hp] at hcs
  · cases a <;> cases hcs
  rw [groups] at hcs
  -- a deregistration is not among the restores of `disableNodes`, so all of them stand before it
  obtain ⟨f, rfl, hf⟩ := List.append_eq_split (x := Call.deregister h)
    (fun hm => by obtain ⟨_, _, _, e⟩ := (mem_restoreCalls _ _).1 hm; cases e) hcs
  have hm : Call.deregister h ∈ f ++ Call.deregister h :: rest := by simp
  simp only [← hf, List.mem_append, mem_deregCalls, mem_restoreCalls] at hm
  rcases hm with ⟨r, hr, e⟩ | ⟨_, _, _, e⟩ | hl
  · cases e
    cases hn : r.hasNode
    · exact Or.inr ⟨r, ((mem_toDisable _ _ _).1 hr).1, rfl, hn⟩
    · exact Or.inl ((mem_okEvs _ _).2 ⟨rfl, List.mem_append_left _ ((mem_restoreCalls _ _).2 ⟨r, hr, hn, rfl⟩)⟩)
  · cases e
  · have := (lastCalls_sublist cfg i).subset hl
    simp at this

/-- a failing restore aborts the sync before anything is dropped -/
theorem failed_restore_drops_nothing (cfg : Cfg) (i : SyncIn) (t : List Ev) (h : String)
    (hs : sync cfg i = .trace t) (hf : (⟨.restore h, false⟩ : Ev) ∈ t) :
    t.getLast? = some ⟨.restore h, false⟩ ∧ ∀ x ok, (⟨.deregister x, ok⟩ : Ev) ∈ t →
      ∃ pre post, t = pre ++ ⟨.deregister x, ok⟩ :: post ∧ (⟨.restore h, false⟩ : Ev) ∈ post := by
  -- the failed call is the last event of the run, so every other event stands before it
  rw [trace_eq_run cfg i t (Or.inl hs)] at hf ⊢
  have hl := runCalls_failed _ _ _ hf
  exact ⟨hl, fun x ok hm => List.before_last hl hm (by simp)⟩

/-- replicas without a known lag (and the master) and replicas whose lag has converged are returned to
the master's settings and then dropped from the registry (fault-free sync) -/
theorem lost_and_converged_are_dropped (cfg : Cfg) (i : SyncIn) (t : List Ev) (r : RegHost)
    (hok : ∀ c, i.fails c = false) (hs : sync cfg i = .trace t) (hr : r ∈ i.hosts)
    (hcl : classify cfg i.masterRs r = .cls .malfunctioning ∨ classify cfg i.masterRs r = .cls .optimized) :
    (⟨.deregister r.name, true⟩ : Ev) ∈ t ∧ (r.hasNode = true → (⟨.restore r.name, true⟩ : Ev) ∈ t) := by
  have hr' : r ∈ toDisable cfg i := (mem_toDisable cfg i r).2 ⟨hr, hcl.symm⟩
  simp only [mem_trace_nofail cfg i t hok hs, true_and]
  exact ⟨Or.inr (Or.inl ((mem_deregCalls _ _).2 ⟨r, hr', rfl⟩)),
    fun hn => Or.inl ((mem_restoreCalls _ _).2 ⟨r, hr', hn, rfl⟩)⟩

/-- classification in the property's terms -/
theorem classify_lost (cfg : Cfg) (m : RS) (r : RegHost) (en : Bool) (he : r.enabled = some en)
    (h : r.isMaster = true ∨ r.lag = none) : classify cfg m r = .cls .malfunctioning := by
  unfold classify
  rw [he]
  rcases h with h | h <;> simp [h]

theorem classify_converged (cfg : Cfg) (m : RS) (r : RegHost) (en : Bool) (l : Int) (he : r.enabled = some en)
    (hm : r.isMaster = false) (hl : r.lag = some l)
    (hc : (en = false ∧ l < cfg.highMark) ∨ (en = true ∧ l < cfg.lowMark)) : classify cfg m r = .cls .optimized := by
  unfold classify
  rw [he]
  rcases hc with ⟨h1, h2⟩ | ⟨h1, h2⟩ <;> simp [hm, hl, h1, h2]

/-- at most one host is relaxed BY a sync -/
theorem sync_relaxes_at_most_one (cfg : Cfg) (i : SyncIn) (t : List Ev) (hs : sync cfg i = .trace t) :
    (t.filter fun e => match e.call with | .relax _ => true | _ => false).length ≤ 1 := by
  -- the calls made are a prefix of the plan, and the plan holds at most one `relax`
  have h := ((runCalls_calls_prefix i.fails (plan cfg i)).filter Call.isRelax).length_le
  rw [List.filter_map, List.length_map, ← trace_eq_run cfg i t (Or.inl hs)] at h
  exact Nat.le_trans (Nat.le_of_eq (by congr 2)) (Nat.le_trans h (plan_relax_le cfg i))

/-- `DisableAll` (the pre-switchover shut-off): every host of the registry that is among the given
nodes is restored first and deregistered only if the restore succeeded -/
theorem disableAll_restores_then_drops (registry given : List String) (fails : Call → Bool) (h : String) (ok : Bool)
    (hd : (⟨.deregister h, ok⟩ : Ev) ∈ disableAll registry given fails) :
    h ∈ registry ∧ h ∈ given ∧ fails (.restore h) = false ∧ (⟨.restore h, true⟩ : Ev) ∈ disableAll registry given fails := by
  obtain ⟨x, hr, hg, he | ⟨hf, he⟩⟩ := (mem_disableAll _ _ _ _).1 hd
  · cases he
  · cases he
    exact ⟨hr, hg, hf, (mem_disableAll _ _ _ _).2 ⟨h, hr, hg, Or.inl (by rw [hf]; rfl)⟩⟩

/-- fault-free `DisableAll` over a duplicate-free registry leaves none of the given hosts registered or relaxed -/
theorem disableAll_complete (registry given : List String) (w : World) (m : RS)
    (hw : w.registered = registry) (hn : registry.Nodup) :
    let w' := w.run m (disableAll registry given fun _ => false)
    (∀ h ∈ given, h ∉ w'.registered) ∧ (∀ h ∈ given, h ∈ registry → w'.get h = m) := by
  have _ := hn  -- not needed: a deregistration filters the registry, so it removes every occurrence
  have hnr : NoReg (disableAll registry given fun _ => false) := fun e he x => by
    obtain ⟨_, _, _, h | ⟨_, h⟩⟩ := (mem_disableAll _ _ _ _).1 he <;> rw [h] <;> nofun
  have hnx : ∀ x, (⟨.relax x, true⟩ : Ev) ∉ disableAll registry given fun _ => false := fun x he => by
    obtain ⟨_, _, _, h | ⟨_, h⟩⟩ := (mem_disableAll _ _ _ _).1 he <;> cases h
  refine ⟨fun h hg hmem => ?_, fun h hg hr => ?_⟩
  · have hr : h ∈ registry := hw ▸ (run_registered_sublist w m _ hnr).subset hmem
    exact run_deregistered w m _ h hnr ((mem_disableAll _ _ _ _).2 ⟨h, hr, hg, Or.inr ⟨rfl, rfl⟩⟩) hmem
  · exact get_run_restored w m _ h ((mem_disableAll _ _ _ _).2 ⟨h, hr, hg, Or.inl rfl⟩) (hnx h)

/-- `Controller.Wait`'s test: it reports "optimised" at once unless the registry record says
`enabled` (nothing in the tree writes that status, so the pre-switchover wait ends at its first tick) -/
theorem wait_returns_unless_enabled (m : Int) (state : Option Bool) (lag : Option Int) (h : state ≠ some true) :
    isOptimizedDuringWaiting m state lag = (true, false) := by
  unfold isOptimizedDuringWaiting
  rcases state with _ | _ | _
  · rfl
  · rfl
  · exact absurd rfl h

-- non-vacuity
private def r1 : RegHost := { name := "a", enabled := some false, isMaster := false, lag := some 500, settings := some ⟨1, 1⟩ }
private def r2 : RegHost := { name := "b", enabled := some false, isMaster := false, lag := some 10, settings := some ⟨2, 1000⟩ }
private def i0 : SyncIn := { hosts := [r1, r2], masterRs := ⟨1, 1⟩, current := fun h => if h == "b" then ⟨2, 1000⟩ else ⟨1, 1⟩, fails := fun _ => false }
example : (match sync ⟨60, 120⟩ i0 with | .trace t => t | .panic t => t) =
    [⟨.restore "b", true⟩, ⟨.deregister "b", true⟩, ⟨.relax "a", true⟩] := by decide +kernel

/-- the switchover clause on the procedure model (true only since fix 97bff8a): whenever the speed-up phase ran,
every freeze step — and therefore every promotion — comes after a successful shut-off of the optimisation that
itself comes after the speed-up phase; for all oracle outcomes -/
theorem switchover_shuts_optimisation_off_before_freeze (cfg : Switchover.Cfg) (i : Switchover.In)
    (pre post : List Switchover.Step) (h : String) (ok : Bool)
    (hs : Switchover.performSwitchover cfg i = pre ++ Switchover.Step.freezeRO h ok :: post) :
    Switchover.Step.stopOptimization true ∈ pre ∧
    (Switchover.Step.turboPhase true ∈ pre →
      ∃ a b, pre = a ++ Switchover.Step.turboPhase true :: b ∧ Switchover.Step.stopOptimization true ∈ b) := by
  open SwitchoverLemmas in
  -- a freeze step is of phase 1: the stages before it (`sOpt`) all succeeded and what they emit comes first; what follows
  -- is of a later phase, so a speed-up step in `pre` is the one of `sOpt`
  rw [performSwitchover_eq, stages_eq] at hs
  obtain ⟨_, f, rfl, hf⟩ := run_split ((stages_phase cfg i).1.phase_ne 1) (fun h => h rfl) hs
  have hgo : goods (sOpt i) = .stopOptimization true :: (if i.turbo then [.turboPhase true, .stopOptimization true] else []) := by
    cases ht : i.turbo <;> simp [sOpt, ht]
  have hlater : Switchover.Step.turboPhase true ∉ f := fun hm =>
    emits_after_opt.run (.turboPhase true) (by rw [hf]; simp [hm]) rfl
  rw [hgo]
  refine ⟨by simp, fun ht => ?_⟩
  cases hturbo : i.turbo
  · simp [hturbo, hlater] at ht
  · exact ⟨[.stopOptimization true], .stopOptimization true :: f, by simp, by simp⟩

-- non-vacuity: a planned switchover with the speed-up phase in a healthy 3-node cluster
private def mst : NodeState := { pingOk := true, isMaster := true }
private def rep : NodeState := { pingOk := true, slave := some { state := .running, masterHost := "a" } }
private def s0 : Switchover.In :=
  { cs := [("a", mst), ("b", rep), ("c", rep)], active := ["a", "b", "c"], sw := { to := "b" }, oldMaster := "a", turbo := true,
    ro := fun _ => true, io := fun _ => true, positions := none, cs2 := [], repoint := fun _ => true }
example : (Switchover.performSwitchover ⟨true, 1, false, 0, 60⟩ s0).take 6 =
    [.stopOptimization true, .turboPhase true, .stopOptimization true, .freezeRO "a" true, .freezeRO "b" true, .freezeRO "c" true] := by
  decide +kernel
example : Switchover.performSwitchover ⟨true, 1, false, 0, 60⟩ { s0 with optStop2Ok := false } =
    [.stopOptimization true, .turboPhase true, .stopOptimization false] := by decide +kernel

end C19
