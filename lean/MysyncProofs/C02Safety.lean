/-
C02 — no acknowledged loss over histories of ANY length (fixed published list).
Property theorems of C02; lemmas in MysyncProofs/Lemmas/SafetyLemmas.lean.
Model: MysyncModel/Proto/Safety.lean — commits acknowledged under C04's guarantees, replication, failovers
admitted by C01 / C12's conditions.  The quorum arithmetic is the REGENERATED one.
-/
import MysyncModel.Proto.Safety
import MysyncProofs.Lemmas.SafetyLemmas

namespace C02
open Safety Gen.SwitchHelper

/-- a sane start: a duplicate-free list that contains the master, nothing acknowledged yet -/
def Init (σ : St) : Prop := σ.l.Nodup ∧ σ.m ∈ σ.l ∧ σ.acked = []

private theorem inv_reach (sh : SwitchHelper) (σ0 : St) (h0 : Init σ0) (steps : List Step) :
    SafetyLemmas.Inv sh (run sh σ0 steps) :=
  SafetyLemmas.inv_run sh steps σ0 ⟨h0.2.1, by rw [h0.2.2]; exact List.forall_mem_nil _⟩

/-- Whatever the history — any number of commits, replication moves and failovers, in any order, each admitted
only under the conditions the component properties establish — every acknowledged transaction is on the current
master. -/
theorem acked_never_lost (sh : SwitchHelper) (σ0 : St) (h0 : Init σ0) (steps : List Step) :
    AckedOnMaster (run sh σ0 steps) :=
  fun t ht => ((inv_reach sh σ0 h0 steps).2 t ht).1

/-- … and on a quorum-proof set of hosts: every duplicate-free frozen set that would pass the quorum re-count
contains a host that has it (this is the inductive invariant; it is what makes the NEXT failover safe) -/
theorem acked_meets_every_quorum (sh : SwitchHelper) (σ0 : St) (h0 : Init σ0) (steps : List Step)
    (t : Txn) (ht : t ∈ (run sh σ0 steps).acked) (F : List Host) (hF : ∀ f ∈ F, f ∈ (run sh σ0 steps).l) (hn : F.Nodup)
    (hq : GetFailoverQuorum sh (run sh σ0 steps).l ≤ (F.length : Int)) :
    ∃ f ∈ F, has (run sh σ0 steps) f t = true :=
  ((inv_reach sh σ0 h0 steps).2 t ht).2 F hF hn hq

-- non-vacuity: a three-node history with two commits, a replication move and two failovers is admitted step by step
def sh1 : SwitchHelper := ⟨0, 1, true⟩
def s0 : St := { l := ["m", "a", "b"], m := "m", recv := fun _ => [], acked := [] }
def hist : List Step := [.commit 1 ["a"], .replicate "b" [1], .commit 2 ["b"], .replicate "a" [2], .failover "a" ["a", "b"],
  .commit 3 ["b"], .failover "b" ["b", "m"]]
example : (run sh1 s0 hist).m = "b" ∧ (run sh1 s0 hist).acked = [3, 2, 1] ∧
    ((run sh1 s0 hist).recv "b").contains 1 ∧ ((run sh1 s0 hist).recv "b").contains 3 := by decide
-- … and a failover that the quorum re-count does not admit changes nothing
example : (run sh1 s0 [.commit 1 ["a"], .failover "b" ["b"]]).m = "m" := by decide

end C02
