/-
C18 — Disk-space guard: read-only at critical usage, hysteresis on return.
Property theorems of C18; the predicates `MasterCritical`, `MasterGrey`, `ReplicasCritical` and the lemmas are in
MysyncProofs/Lemmas/DiskGuardLemmas.lean.
Model: MysyncModel/App/DiskGuard.lean (`repairReadOnlyOnMaster`).
-/
import MysyncModel.App.DiskGuard
import MysyncProofs.Lemmas.DiskGuardLemmas

namespace C18
open NS DiskGuard DiskGuardLemmas

/-- Go's map iteration order is irrelevant: the accumulated counters are the same for every order -/
theorem tally_order_independent (cfg : Cfg) (m : String) (dcs dcs' : ClusterState) (h : dcs.Perm dcs') :
    tally cfg m dcs = tally cfg m dcs' := by
  exact h.foldl_eq' (fun a _ b _ t => tallyStep_comm cfg m t a b) {}

theorem tally_needRo_iff (cfg : Cfg) (m : String) (dcs : ClusterState) :
    (tally cfg m dcs).needRo = true ↔ MasterCritical cfg m dcs := by
  unfold tally MasterCritical
  rw [foldl_flag cfg m (·.needRo = true) .crit applyKind_needRo]
  simp only [fun e => (kind_master_iff cfg m e).1, Bool.false_eq_true, false_or]

theorem tally_mayWrite_iff (cfg : Cfg) (m : String) (dcs : ClusterState) :
    (tally cfg m dcs).mayWrite = false ↔ MasterGrey cfg m dcs := by
  unfold tally MasterGrey
  rw [foldl_flag cfg m (·.mayWrite = false) .grey applyKind_mayWrite]
  simp only [fun e => (kind_master_iff cfg m e).2, Bool.true_eq_false, false_or]

/-- counters are counts: no disk report ⇒ not counted; `low + normal ≤ running`, all non-negative -/
theorem tally_counts_sane (cfg : Cfg) (m : String) (dcs : ClusterState) :
    let t := tally cfg m dcs
    0 ≤ t.low ∧ 0 ≤ t.normal ∧ t.low + t.normal ≤ t.running := by
  exact foldl_sane cfg m dcs {} (by simp [Sane])

/-- read-only is requested (statement or "already in that mode") exactly at critical usage of the
master or of too many running semi-sync replicas -/
theorem ro_iff_critical (cfg : Cfg) (m : String) (ms : NodeState) (dcs : ClusterState) :
    ((∃ s, decide_ cfg m ms dcs = .setReadOnly s) ∨ decide_ cfg m ms dcs = .alreadyReadOnly) ↔
    (MasterCritical cfg m dcs ∨ ReplicasCritical ms (tally cfg m dcs)) := by
  rw [decide_ro_iff, afterReplicas_needRo, tally_needRo_iff]

/-- the statement is super-read-only unless configured to keep super users writable, and it is
skipped iff the master is already in exactly that mode -/
theorem ro_statement_kind (cfg : Cfg) (m : String) (ms : NodeState) (dcs : ClusterState) :
    (∀ s, decide_ cfg m ms dcs = .setReadOnly s → s = !cfg.keepSuperWritable ∧
        ¬ (ms.isReadOnly = true ∧ cfg.keepSuperWritable ≠ ms.isSuperReadOnly)) ∧
    (decide_ cfg m ms dcs = .alreadyReadOnly → ms.isReadOnly = true ∧ cfg.keepSuperWritable ≠ ms.isSuperReadOnly) := by
  fun_cases decide_ cfg m ms dcs
  case case2 hc =>
    exact ⟨fun s h => ⟨(Decision.setReadOnly.inj h).symm, by simpa using hc⟩, nofun⟩
  all_goals simp_all

/-- a read-only master is made writable only when nothing is critical, the master's usage is at or
below the non-critical level and, if running semi-sync replicas are reported, at least one of them
is too -/
theorem writable_only_if (cfg : Cfg) (m : String) (ms : NodeState) (dcs : ClusterState)
    (h : decide_ cfg m ms dcs = .setWritable) :
    ms.isReadOnly = true ∧ ¬ MasterCritical cfg m dcs ∧ ¬ MasterGrey cfg m dcs ∧
    ¬ ReplicasCritical ms (tally cfg m dcs) ∧
    ((tally cfg m dcs).running = 0 ∨ (tally cfg m dcs).normal ≥ 1) := by
  obtain ⟨hro, hn, hw⟩ := decide_setWritable cfg m ms dcs h
  have hn' : ¬ ((tally cfg m dcs).needRo = true ∨ ReplicasCritical ms (tally cfg m dcs)) := by
    rw [← afterReplicas_needRo, hn]; decide
  have hnr : ¬ ReplicasCritical ms (tally cfg m dcs) := fun h => hn' (Or.inr h)
  have hw' : ¬ ((tally cfg m dcs).mayWrite = false ∨
      ((tally cfg m dcs).running > 0 ∧ (tally cfg m dcs).normal = 0)) := by
    rw [← afterReplicas_mayWrite ms _ hnr, hw]; decide
  obtain ⟨_, h2, h3⟩ := tally_counts_sane cfg m dcs
  refine ⟨hro, fun hc => hn' (Or.inl ((tally_needRo_iff cfg m dcs).2 hc)),
    fun hg => hw' (Or.inl ((tally_mayWrite_iff cfg m dcs).2 hg)), hnr, ?_⟩
  by_cases hr : (tally cfg m dcs).running > 0
  · have : (tally cfg m dcs).normal ≠ 0 := fun h0 => hw' (Or.inr ⟨hr, h0⟩)
    exact Or.inr (by omega)
  · exact Or.inl (by omega)

/-- in between the mode is left untouched -/
theorem grey_zone_untouched (cfg : Cfg) (m : String) (ms : NodeState) (dcs : ClusterState)
    (hno : ¬ MasterCritical cfg m dcs) (hnr : ¬ ReplicasCritical ms (tally cfg m dcs))
    (hg : MasterGrey cfg m dcs ∨ ((tally cfg m dcs).running > 0 ∧ (tally cfg m dcs).normal = 0)) :
    decide_ cfg m ms dcs = .greyZone := by
  have hn : ¬ ((tally cfg m dcs).needRo = true ∨ ReplicasCritical ms (tally cfg m dcs)) := fun h =>
    h.elim (fun h => hno ((tally_needRo_iff cfg m dcs).1 h)) hnr
  rw [← afterReplicas_needRo, Bool.not_eq_true] at hn
  exact decide_greyZone cfg m ms dcs hn
    ((afterReplicas_mayWrite ms _ hnr).2 (hg.imp (tally_mayWrite_iff cfg m dcs).2 id))

/-- the low-space flag follows the last successful change -/
theorem low_space_follows (d : Decision) (ok : Bool) (v : Bool) :
    lowSpaceWrite d ok = some v ↔
      (ok = true ∧ (((∃ s, d = .setReadOnly s) ∧ v = true) ∨ (d = .setWritable ∧ v = false))) := by
  fun_cases lowSpaceWrite d ok
  all_goals simp_all [eq_comm]

/-- with `not_critical ≤ critical` (what `Validate` enforces) a disk at or below the non-critical
level is never critical unless the two levels coincide and the usage sits exactly on them -/
theorem thresholds_sane (cfg : Cfg) (d : DiskState) (h : cfg.notCrit ≤ cfg.crit) (hlt : cfg.notCrit < cfg.crit)
    (hle : d.usageGt cfg.notCrit = false) : d.usageGe cfg.crit = false := by
  exact (fun _ => DiskGuardLemmas.thresholds d cfg.crit cfg.notCrit hlt hle) h

-- non-vacuity
private def cfg0 : Cfg := ⟨true, false, 95, 90⟩
private def m95 : NodeState := { pingOk := true, isMaster := true, disk := some ⟨95, 100⟩, semiSync := some ⟨true, false, 1⟩ }
private def m50ro : NodeState := { pingOk := true, isMaster := true, isReadOnly := true, isSuperReadOnly := true, disk := some ⟨50, 100⟩, semiSync := some ⟨true, false, 1⟩ }
example : decide_ cfg0 "m" m95 [("m", m95)] = .setReadOnly true := by decide
example : decide_ cfg0 "m" m50ro [("m", m50ro)] = .setWritable := by decide

end C18
