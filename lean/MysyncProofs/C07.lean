/-
C07 — Switchover is resumable after a manager crash at any point.
Property theorems of C07 on the procedure and on the request key; lemmas in MysyncProofs/Lemmas/SwitchoverLemmas.lean (the
stage list) and ManagerTick.lean (one manager iteration); the counterexample to the first wording of
`request_kept_until_terminal` is in Lemmas/Counterexamples.lean.

What is PROVED here (safety, for every crash point = every prefix of the step list, every oracle):
nothing is promoted on a prefix unless the full preconditions of C01 hold; the recorded master is
written last and only after the new master is writable; the request is kept in `switch` until it is
finished or rejected, by whichever process holds the lock.  What is VALIDATED (not proved; proved on the world
model for a planned switchover only, C07World.lean): that the successor's iterations end in the canonical topology — harness `TestVerifC07` kills the manager after
every external call of real switchovers and lets a successor run (DESIGN §7 C07, partial).
-/
import MysyncModel.App.Switchover
import MysyncModel.App.SwitchLifecycle
import MysyncProofs.Lemmas.SwitchoverLemmas
import MysyncProofs.Lemmas.ManagerTick
import MysyncProofs.Lemmas.Counterexamples

namespace C07
open NS Switchover

/-- the recorded master is updated LAST: it is the final step of the procedure … -/
theorem master_key_last (cfg : Cfg) (i : In) (h : String) (ok : Bool)
    (hs : Step.setMasterKey h ok ∈ performSwitchover cfg i) :
    (performSwitchover cfg i).getLast? = some (.setMasterKey h ok) :=
  SwitchoverLemmas.ends_last rfl hs

/-- … and it names the node that was just made writable -/
theorem master_key_after_writable (cfg : Cfg) (i : In) (h : String) (ok : Bool)
    (hs : Step.setMasterKey h ok ∈ performSwitchover cfg i) :
    Step.setWritable h true ∈ performSwitchover cfg i ∧ Step.resetSlaveAll h true ∈ performSwitchover cfg i := by
  obtain ⟨hr, hm⟩ := SwitchoverLemmas.fin_reach rfl hs
  simp [SwitchoverLemmas.pFin, SwitchoverLemmas.pReset, SwitchoverLemmas.pWritable, SwitchoverLemmas.pEvents,
    SwitchoverLemmas.mem_run_cons] at hm
  obtain ⟨h1, h2, h3, h4, _⟩ := hm
  rw [SwitchoverLemmas.reached_eq hr]
  simp [SwitchoverLemmas.pFin, SwitchoverLemmas.pReset, SwitchoverLemmas.pWritable, SwitchoverLemmas.pEvents,
    SwitchoverLemmas.run_cons, h1, h2, h3, h4]

/-- on every crash prefix that has not reached the last step the recorded master is untouched, so the
successor still learns the OLD master from the coordination service -/
theorem crash_keeps_old_master_key (cfg : Cfg) (i : In) (pre post : List Step) (hpost : post ≠ [])
    (hsplit : performSwitchover cfg i = pre ++ post) : ∀ h ok, Step.setMasterKey h ok ∉ pre :=
  fun _ _ hm => Bool.noConfusion (SwitchoverLemmas.ends_not_in_prefix hpost hsplit _ hm)

/-- a deposed manager stops: when a lock re-check fails nothing further is done -/
theorem lost_lock_stops (cfg : Cfg) (i : In) (n : Nat) (hs : Step.lockCheck n false ∈ performSwitchover cfg i) :
    (performSwitchover cfg i).getLast? = some (.lockCheck n false) :=
  SwitchoverLemmas.ends_last rfl hs

/-- at most one node is made writable by one run of the procedure -/
theorem at_most_one_promotion (cfg : Cfg) (i : In) (h1 h2 : String) (o1 o2 : Bool)
    (a : Step.setWritable h1 o1 ∈ performSwitchover cfg i) (b : Step.setWritable h2 o2 ∈ performSwitchover cfg i) :
    h1 = h2 ∧ o1 = o2 := by
  obtain ⟨_, _, ha, ha'⟩ := SwitchoverLemmas.writable_reach a
  obtain ⟨_, _, hb, hb'⟩ := SwitchoverLemmas.writable_reach b
  exact ⟨by rw [ha, hb], by rw [ha', hb']⟩

/-- the request survives a crashed or failed attempt: an iteration whose procedure failed (or whose
process died — no bookkeeping step at all) leaves `switch` in place for the next manager -/
theorem request_kept_until_terminal (cfg : Manager.Cfg) (i : Manager.In) (k : SwitchLifecycle.Keys) (sw : Manager.Switch)
    (hs : k.switch = some sw) (hkeep : (SwitchLifecycle.tick cfg i k).lastOk = k.lastOk ∧ (SwitchLifecycle.tick cfg i k).lastRejected = k.lastRejected)
    (hp : i.perform ≠ .abortedMeanwhile)
    (hfresh : k.lastOk ≠ some sw ∧ k.lastRejected ≠ some sw) :
    ∃ sw', (SwitchLifecycle.tick cfg i k).switch = some sw' ∧ sw'.from_ = sw.from_ ∧ sw'.to = sw.to := by
  -- CORRECTED after a counterexample: without `hfresh` (the result keys do not already hold this very record — a new
  -- request always differs from older results in `initiated_at`) "the result keys did not change" does not tell a kept
  -- request from a finished one (`SwitchoverLemmas.request_kept_counterexample`, kernel-checked).
  rcases ManagerLemmas.tick_pending cfg i hs with e | e | ⟨e, _⟩ | ⟨e, _⟩ | ⟨e, hpa⟩ <;> rw [e] at hkeep ⊢
  · exact ⟨sw, hs, rfl, rfl⟩
  · exact absurd hkeep.2.symm hfresh.2
  · exact absurd hkeep.1.symm hfresh.1
  · exact ⟨_, rfl, rfl, rfl⟩
  · exact absurd hpa hp

/-! ### the known finding, on the models (known_findings.json: `…promoted-node-was-never-recorded`)

`crash_keeps_old_master_key` + `master_key_after_writable`: a manager that dies after `setWritable new true` and before
`setMasterKey` leaves `new` writable and the OLD master recorded.  What the successor then does with the pending
automatic failover of a two-node list — the request was never failed, so it is judged again; the promoted node has
no replica status any more, so it does not count as an alive replica; the quorum check refuses — is this: -/

private def cfgW : Manager.Cfg := { (default : Manager.Cfg) with failover := true, semiSync := true, waitCount := 1 }
private def deadOld : NS.NodeState := { pingOk := false }
private def promotedNew : NS.NodeState := { pingOk := true, isMaster := true }
private def successorView (active : List String) : Manager.In :=
  { master := some "h1", activeNodes := active, cs := [("h1", deadOld), ("h2", promotedNew)],
    dcs := [("h1", deadOld), ("h2", promotedNew)], now := 100, failedAt := none }

/-- the successor REJECTS the pending failover (whichever of the two lists the first attempt left behind), so the
promoted node is never recorded — everything it acknowledges is lost when the old master returns -/
theorem witness_successor_rejects_after_promotion :
    Manager.approveSwitchover cfgW (successorView ["h2"]) { from_ := "h1", causeAuto := true, failoverType := true, runCount := 0 } = false ∧
    Manager.approveSwitchover cfgW (successorView ["h1", "h2"]) { from_ := "h1", causeAuto := true, failoverType := true, runCount := 0 } = false := by
  decide


end C07
