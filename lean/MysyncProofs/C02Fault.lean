/-
C02 — no acknowledged loss over histories of ANY length WITH list changes, under the single-fault budget.
Property theorems of C02; lemmas in MysyncProofs/Lemmas/SafetyFaultLemmas.lean.
Model: MysyncModel/Proto/SafetyFault.lean.  The quorum arithmetic is the REGENERATED one.
-/
import MysyncModel.Proto.SafetyFault
import MysyncProofs.Lemmas.SafetyFaultLemmas

namespace C02
open SafetyF Gen.SwitchHelper SafetyFaultLemmas

/-- a converged semi-sync cluster: at least two registered hosts, all of them listed, nobody faulty, nothing
acknowledged yet, and a configured acknowledgement count of at least one -/
structure InitF (sh : SwitchHelper) (σ : St) : Prop where
  nodup : σ.hosts.Nodup
  two : 2 ≤ σ.hosts.length
  full : σ.l = σ.hosts
  hm : σ.m ∈ σ.hosts
  fresh : σ.acked = []
  nofault : σ.dead = none
  w : 1 ≤ sh.rplSemiSyncMasterWaitForSlaveCount

private theorem inv_reach (sh : SwitchHelper) (σ0 : St) (h0 : InitF sh σ0) (steps : List Step) :
    Inv sh (run sh true σ0 steps) :=
  inv_run sh steps σ0 ⟨⟨h0.nodup, h0.two, h0.full ▸ h0.nodup, h0.full ▸ h0.hm, fun _ hh => h0.full ▸ hh, h0.w⟩,
    by rw [h0.fresh]; exact List.forall_mem_nil _⟩

/-- Whatever the history — commits, replication moves, list changes (evictions of the faulty host, re-admissions),
failovers and switchovers, faults and healings in any order and number, as long as at most one host is faulty at a
time and the master fails only when every registered host is back in the list — every acknowledged transaction is on
the current master. -/
theorem acked_never_lost_with_list_changes (sh : SwitchHelper) (σ0 : St) (h0 : InitF sh σ0) (steps : List Step) :
    AckedOnMaster (run sh true σ0 steps) :=
  fun t ht => ((inv_reach sh σ0 h0 steps).safe t ht).1

/-- … and whenever the cluster has converged (every registered host listed, nobody faulty) every acknowledged
transaction is also on a listed replica: the next fault of the master is survivable -/
theorem acked_on_a_listed_replica_when_converged (sh : SwitchHelper) (σ0 : St) (h0 : InitF sh σ0) (steps : List Step)
    (hconv : ∀ h ∈ (run sh true σ0 steps).hosts, h ∈ (run sh true σ0 steps).l) :
    ∀ t ∈ (run sh true σ0 steps).acked, ∃ a ∈ (run sh true σ0 steps).l, a ≠ (run sh true σ0 steps).m ∧ has (run sh true σ0 steps) a t = true := by
  have hinv := inv_reach sh σ0 h0 steps
  exact fun t ht => K_of_converged hinv.wf hconv (hinv.safe t ht).2.1

/-- the registered hosts never change, the list stays a duplicate-free set of registered hosts that contains the
master, and at most one host is faulty (by construction of the state) -/
theorem list_stays_well_formed (sh : SwitchHelper) (σ0 : St) (h0 : InitF sh σ0) (steps : List Step) :
    let σ := run sh true σ0 steps
    σ.hosts = σ0.hosts ∧ σ.l.Nodup ∧ σ.m ∈ σ.l ∧ ∀ h ∈ σ.l, h ∈ σ.hosts := by
  have hinv := inv_reach sh σ0 h0 steps
  exact ⟨run_hosts sh true steps σ0, hinv.wf.lnd, hinv.wf.ml, hinv.wf.sub⟩

/-! ### what the join guard is for (known finding C04 "published-list-counts-a-data-lagging-replica…")

The code admits a replica to the published list as soon as it replicates, whether or not it has caught up.  Without the
join guard the machine loses an acknowledged transaction with two well-separated single faults: the replica of a
two-node cluster fails and is dropped, the master acknowledges alone, the replica comes back and is listed again at
once, the master fails, the replica is promoted. -/

def shW : SwitchHelper := ⟨0, 1, true⟩
def w0 : St := { hosts := ["m", "a"], l := ["m", "a"], m := "m", recv := fun _ => [], acked := [] }
def lossHist : List Step :=
  [.die "a", .publish ["m"], .commit 7 [], .heal, .publish ["m", "a"], .die "m", .failover "a" ["a"]]

theorem witness_loss_without_join_guard :
    InitF shW w0 ∧
    (run shW false w0 lossHist).m = "a" ∧ (run shW false w0 lossHist).acked = [7] ∧
    has (run shW false w0 lossHist) "a" 7 = false := by
  refine ⟨⟨by decide, by decide, rfl, by decide, rfl, rfl, by decide⟩, ?_, ?_, ?_⟩ <;> decide

/-- with the join guard the same history stops at the re-admission: the replica is not listed before it has the
transaction, the master cannot be declared faulty meanwhile, nothing is lost -/
theorem witness_same_history_with_join_guard :
    (run shW true w0 lossHist).m = "m" ∧ (run shW true w0 lossHist).l = ["m"] ∧
    has (run shW true w0 lossHist) "m" 7 = true := by
  refine ⟨?_, ?_, ?_⟩ <;> decide

-- non-vacuity: a three-node history with an eviction, a re-admission after catching up, a failover and a second fault
def s3 : St := { hosts := ["m", "a", "b"], l := ["m", "a", "b"], m := "m", recv := fun _ => [], acked := [] }
def hist3 : List Step :=
  [.commit 1 ["a"], .die "a", .publish ["m", "b"], .commit 2 ["b"], .heal, .replicate "a" [2], .publish ["m", "b", "a"],
   .commit 3 ["a"], .replicate "b" [1, 3], .die "m", .failover "b" ["b", "a"], .publish ["b", "a"], .commit 4 ["a"], .heal,
   .replicate "m" [4], .publish ["b", "a", "m"], .die "b", .failover "a" ["a", "m"]]
example : InitF shW s3 := by
  refine ⟨by decide, by decide, rfl, by decide, rfl, rfl, by decide⟩
example : (run shW true s3 hist3).m = "a" ∧ (run shW true s3 hist3).acked = [4, 3, 2, 1] ∧ (run shW true s3 hist3).l = ["b", "a", "m"] ∧
    ((run shW true s3 hist3).acked.all fun t => has (run shW true s3 hist3) "a" t) = true := by
  refine ⟨?_, ?_, ?_, ?_⟩ <;> decide +kernel

end C02
